/-
  Lemmas/NestFuel.lean — the nesting fuel of the executable spec is enough on documents whose
  fragment spreads form no cycle.  The "expanded height" of a selection set (fields nested through
  inline fragments and spreads) is well defined there, strictly decreases from a collected field
  to the fields of its own selection set, and is bounded by the document's depth times the number
  of fragments; FieldsInSetCanMerge / SameResponseShape do not change once the fuel exceeds it.
-/
import GqlVerif.Lemmas.SpreadFuel
import GqlVerif.Lemmas.MergeVisited
import GqlVerif.Lemmas.TraverseMem
namespace Gql
open Gql.Spec

mutual
def hSelW (sp : Name → Nat) : Selection → Nat
  | .field _ _ _ _ _ sel => 1 + hSelsW sp sel
  | .spread _ nm _ => sp nm
  | .inline _ _ _ sel => hSelsW sp sel
def hSelsW (sp : Name → Nat) : List Selection → Nat
  | [] => 0
  | x :: xs => max (hSelW sp x) (hSelsW sp xs)
end

/-- height of what a spread of `nm` contributes, following at most `k` nested spreads -/
def fragH (d : Document) : Nat → Name → Nat
  | 0, _ => 0
  | k + 1, nm =>
    match d.fragByName nm with
    | some fr => hSelsW (fragH d k) fr.sel
    | none => 0

/-- `w`, `ws` weigh selections and selection sets: a spread weighs `g` of its name, a field `F` of what its selection set
    weighs, an inline fragment what its selection set weighs, a selection set what its heaviest member weighs -/
structure SelWeight (F : Nat → Nat) (g : Name → Nat) (w : Selection → Nat) (ws : List Selection → Nat) : Prop where
  field : ∀ pos alias name args dirs sel, w (.field pos alias name args dirs sel) = F (ws sel)
  spread : ∀ pos nm dirs, w (.spread pos nm dirs) = g nm
  inline : ∀ pos tc dirs sel, w (.inline pos tc dirs sel) = ws sel
  nil : ws [] = 0
  cons : ∀ x xs, ws (x :: xs) = max (w x) (ws xs)

namespace SelWeight
variable {F : Nat → Nat} {g g' : Name → Nat} {w w' : Selection → Nat} {ws ws' : List Selection → Nat}

theorem congr (h : SelWeight F g w ws) (h' : SelWeight F g' w' ws') :
    (∀ x, (∀ nm ∈ (recursiveSpreadsSel x).map (·.name), g nm = g' nm) → w x = w' x) ∧
    ∀ xs, (∀ nm ∈ (recursiveSpreads xs).map (·.name), g nm = g' nm) → ws xs = ws' xs := by
  refine sels_induction ?_ ?_ ?_ ?_ ?_
  · intro pos alias name args dirs sel ih hg
    rw [h.field, h'.field, ih hg]
  · intro pos nm dirs hg
    rw [h.spread, h'.spread]
    exact hg nm List.mem_cons_self
  · intro pos tc dirs sel ih hg
    rw [h.inline, h'.inline, ih hg]
  · intro _
    rw [h.nil, h'.nil]
  · intro x xs ihx ihxs hg
    simp only [recursiveSpreads, List.map_append, List.mem_append] at hg
    rw [h.cons, h'.cons, ihx fun nm hnm => hg nm (Or.inl hnm), ihxs fun nm hnm => hg nm (Or.inr hnm)]

theorem le_of_top (h : SelWeight F g w ws) (nm : Name) :
    (∀ x, nm ∈ topSpreadsSel x → g nm ≤ w x) ∧ ∀ xs, nm ∈ topSpreads xs → g nm ≤ ws xs := by
  refine sels_induction ?_ ?_ ?_ ?_ ?_
  · exact fun _ _ _ _ _ _ _ hm => absurd hm List.not_mem_nil
  · intro pos n dirs hm
    rw [h.spread, List.mem_singleton.1 hm]
    exact Nat.le_refl _
  · intro pos tc dirs sel ih hm
    rw [h.inline]
    exact ih hm
  · exact fun hm => absurd hm List.not_mem_nil
  · intro x xs ihx ihxs hm
    rw [h.cons]
    exact (List.mem_append.1 hm).elim (fun hm => Nat.le_trans (ihx hm) (Nat.le_max_left _ _))
      fun hm => Nat.le_trans (ihxs hm) (Nat.le_max_right _ _)

theorem field_le (h : SelWeight F g w ws) (s : Schema) (sp : Name → List AstAndDef)
    (hsp : ∀ nm, ∀ a ∈ sp nm, F (ws a.field.sel) ≤ g nm) (a : AstAndDef) :
    (∀ x parent, a ∈ specFieldsSelWith s sp parent x → F (ws a.field.sel) ≤ w x) ∧
    ∀ xs parent, a ∈ specFieldsWith s sp parent xs → F (ws a.field.sel) ≤ ws xs := by
  refine sels_induction ?_ ?_ ?_ ?_ ?_
  · intro pos alias name args dirs sel _ parent hm
    obtain rfl := List.mem_singleton.1 hm
    exact Nat.le_of_eq (h.field ..).symm
  · intro pos nm dirs parent hm
    rw [h.spread]
    exact hsp nm a hm
  · intro pos tc dirs sel ih parent hm
    rw [h.inline]
    exact ih _ hm
  · exact fun _ hm => absurd hm List.not_mem_nil
  · intro x xs ihx ihxs parent hm
    rw [h.cons]
    exact (List.mem_append.1 hm).elim (fun hm => Nat.le_trans (ihx parent hm) (Nat.le_max_left _ _))
      fun hm => Nat.le_trans (ihxs parent hm) (Nat.le_max_right _ _)

end SelWeight

theorem hSelW_weight (sp : Name → Nat) : SelWeight (· + 1) sp (hSelW sp) (hSelsW sp) :=
  ⟨fun _ _ _ _ _ _ => Nat.add_comm 1 _, fun _ _ _ => rfl, fun _ _ _ _ => rfl, rfl, fun _ _ => rfl⟩

theorem hSelW_congr (sp1 sp2 : Name → Nat) : ∀ x : Selection,
    (∀ nm ∈ (recursiveSpreadsSel x).map (·.name), sp1 nm = sp2 nm) → hSelW sp1 x = hSelW sp2 x :=
  ((hSelW_weight sp1).congr (hSelW_weight sp2)).1

/-- the full spread graph restricted to defined fragments (first/last match as the code resolves names) -/
def fullSucc (d : Document) (nm : Name) : List Name :=
  match d.fragByName nm with
  | some fr => (recursiveSpreads fr.sel).map (·.name)
  | none => []

theorem fullSucc_spreadSucc (d : Document) : SpreadSucc d (fullSucc d) :=
  spreadSucc_of d _ (fun a h => by rw [fullSucc, h]) fun a fr h b hb => by rw [fullSucc, h] at hb; exact hb

theorem fragH_stable (d : Document) : ∀ (k : Nat) (nm : Name), ChainBound (fullSucc d) k nm →
    ∀ m, k + 1 ≤ m → fragH d m nm = fragH d (k + 1) nm := by
  refine iter_stable (fullSucc d) (fragH d) fun k m nm h => ?_
  simp only [fragH]
  cases hf : d.fragByName nm with
  | none => rfl
  | some fr => exact ((hSelW_weight _).congr (hSelW_weight _)).2 fr.sel fun nm' hnm' => h nm' (by rw [fullSucc, hf]; exact hnm')

/-- the height of a fragment in an acyclic document -/
def Hf (d : Document) (nm : Name) : Nat := fragH d (d.fragments.length + 1) nm
/-- the expanded height of a selection set -/
def Hs (d : Document) (sel : List Selection) : Nat := hSelsW (Hf d) sel

theorem Hf_eq (d : Document) (hac : ¬ FragmentCycle d) (nm : Name) :
    Hf d nm = match d.fragByName nm with | some fr => Hs d fr.sel | none => 0 :=
  (fragH_stable d _ nm (chainBound_acyclic d _ (fullSucc_spreadSucc d) hac nm) (d.fragments.length + 2) (Nat.le_succ _)).symm

theorem descent_sel (s : Schema) (d : Document) (sp : Name → List AstAndDef)
    (hsp : ∀ nm, ∀ a ∈ sp nm, Hs d a.field.sel + 1 ≤ Hf d nm) : ∀ (x : Selection) (parent : Option TypeDef),
    ∀ a ∈ specFieldsSelWith s sp parent x, Hs d a.field.sel + 1 ≤ hSelW (Hf d) x :=
  fun x parent a => ((hSelW_weight (Hf d)).field_le s sp hsp a).1 x parent

theorem descent_spread (s : Schema) (d : Document) (hac : ¬ FragmentCycle d) : ∀ (n : Nat) (nm : Name),
    ∀ a ∈ spreadFields s d n nm, Hs d a.field.sel + 1 ≤ Hf d nm
  | 0, nm, a, h => by simp [spreadFields] at h
  | n + 1, nm, a, h => by
      cases hf : d.fragByName nm with
      | none => rw [spreadFields_succ_none s d n nm hf] at h; cases h
      | some fr =>
        rw [spreadFields_succ_some s d n nm fr hf] at h
        have := ((hSelW_weight (Hf d)).field_le s _ (fun nm' a' ha' => descent_spread s d hac n nm' a' ha') a).2 fr.sel _ h
        rw [Hf_eq d hac nm, hf]
        exact this

theorem descent (s : Schema) (d : Document) (hac : ¬ FragmentCycle d) (sf : Nat) (parent : Option TypeDef) (sel : List Selection)
    (a : AstAndDef) (h : a ∈ specFields s d sf parent sel) : Hs d a.field.sel + 1 ≤ Hs d sel :=
  ((hSelW_weight (Hf d)).field_le s _ (fun nm a' ha' => descent_spread s d hac sf nm a' ha') a).2 sel parent h

/-- the height of a field: that of its own selection set -/
def ha (d : Document) (a : AstAndDef) : Nat := Hs d a.field.sel

theorem ha_sub (s : Schema) (d : Document) (hac : ¬ FragmentCycle d) (sf : Nat) (a x : AstAndDef) (h : x ∈ subFields s d sf a) :
    ha d x + 1 ≤ ha d a :=
  descent s d hac sf _ _ x h

theorem all_congr_mem {α : Type} (f g : α → Bool) : ∀ (L : List α), (∀ b ∈ L, f b = g b) → L.all f = L.all g
  | [], _ => rfl
  | x :: L, h => by
      simp only [List.all_cons]
      rw [h x (by simp), all_congr_mem f g L (fun b hb => h b (by simp [hb]))]

theorem ha_sub_append (s : Schema) (d : Document) (hac : ¬ FragmentCycle d) (sf : Nat) {a b x : AstAndDef} {M : Nat}
    (ha' : ha d a ≤ M) (hb : ha d b ≤ M) (hx : x ∈ subFields s d sf a ++ subFields s d sf b) : ha d x + 1 ≤ M := by
  rcases List.mem_append.1 hx with hx | hx
  · exact Nat.le_trans (ha_sub s d hac sf a x hx) ha'
  · exact Nat.le_trans (ha_sub s d hac sf b x hx) hb

theorem srs_stable (s : Schema) (d : Document) (hac : ¬ FragmentCycle d) (sf : Nat) : ∀ (M : Nat) (a b : AstAndDef),
    max (ha d a) (ha d b) ≤ M → ∀ m m', M < m → M < m' → sameResponseShape s d sf m a b = sameResponseShape s d sf m' a b
  | M, a, b, hM, m + 1, m' + 1, hm, hm' => by
      rw [srs_succ, srs_succ]
      congr 1
      refine allPairs_congr' _ _ _ fun x hx y hy => ?_
      have hab := Nat.max_le.1 hM
      have hxa := ha_sub_append s d hac sf hab.1 hab.2 hx
      have hya := ha_sub_append s d hac sf hab.1 hab.2 hy
      obtain ⟨M', rfl, hx'⟩ := exists_succ_of_le hxa
      exact srs_stable s d hac sf M' x y (Nat.max_le.2 ⟨hx', Nat.le_of_succ_le_succ hya⟩) m m'
        (Nat.lt_of_succ_lt_succ hm) (Nat.lt_of_succ_lt_succ hm')

/-- height of a field list: one more than the highest member's -/
def hL (d : Document) : List AstAndDef → Nat
  | [] => 0
  | a :: L => max (ha d a + 1) (hL d L)

theorem ha_lt_hL (d : Document) : ∀ (L : List AstAndDef) (a : AstAndDef), a ∈ L → ha d a + 1 ≤ hL d L
  | [], _, h => by cases h
  | b :: L, a, h => by
      rcases List.mem_cons.1 h with rfl | h
      · exact Nat.le_max_left _ _
      · exact Nat.le_trans (ha_lt_hL d L a h) (Nat.le_max_right _ _)

theorem hL_le (d : Document) (M : Nat) : ∀ (L : List AstAndDef), (∀ a ∈ L, ha d a + 1 ≤ M) → hL d L ≤ M
  | [], _ => Nat.zero_le M
  | a :: L, h =>
      Nat.max_le.2 ⟨h a List.mem_cons_self, hL_le d M L fun x hx => h x (List.mem_cons_of_mem a hx)⟩

theorem cm_stable (s : Schema) (d : Document) (hac : ¬ FragmentCycle d) (sf : Nat) : ∀ (M : Nat) (L : List AstAndDef),
    hL d L ≤ M → ∀ m m', M < m → M < m' → fieldsInSetCanMerge s d sf m L = fieldsInSetCanMerge s d sf m' L
  | M, L, hM, m + 1, m' + 1, hm, hm' => by
      rw [cm_succ, cm_succ]
      refine allPairs_congr' _ _ _ fun a haL b hbL => ?_
      obtain ⟨M', rfl, h1⟩ := exists_succ_of_le (Nat.le_trans (ha_lt_hL d L a haL) hM)
      have h2 := Nat.le_of_succ_le_succ (Nat.le_trans (ha_lt_hL d L b hbL) hM)
      have hm1 := Nat.lt_of_succ_lt_succ hm
      have hm2 := Nat.lt_of_succ_lt_succ hm'
      simp only [pairOk]
      rw [srs_stable s d hac sf M' a b (Nat.max_le.2 ⟨h1, h2⟩) m m' hm1 hm2,
        cm_stable s d hac sf M' _ (hL_le d M' _ fun x hx => ha_sub_append s d hac sf h1 h2 hx) m m' hm1 hm2]

theorem hSelW_le_depth (sp : Name → Nat) (B : Nat) (hsp : ∀ nm, sp nm ≤ B) :
    (∀ x, hSelW sp x ≤ selDepth x + B) ∧ ∀ xs, hSelsW sp xs ≤ selsDepth xs + B := by
  refine sels_induction ?_ ?_ ?_ ?_ ?_
  · intro _ _ _ _ _ sel ih
    rw [hSelW, selDepth, Nat.add_assoc]
    exact Nat.add_le_add_left ih 1
  · exact fun _ nm _ => Nat.le_trans (hsp nm) (Nat.le_add_left B 1)
  · intro _ _ _ sel ih
    rw [hSelW, selDepth, Nat.add_assoc]
    exact Nat.le_trans ih (Nat.le_add_left _ 1)
  · exact Nat.zero_le _
  · exact fun x xs ihx ihxs => Nat.max_le.2 ⟨Nat.le_trans ihx (Nat.add_le_add_right (Nat.le_max_left _ _) B),
      Nat.le_trans ihxs (Nat.add_le_add_right (Nat.le_max_right _ _) B)⟩

theorem hSelW_bound (sp : Name → Nat) (B : Nat) (hsp : ∀ nm, sp nm ≤ B) : ∀ x : Selection, hSelW sp x ≤ selDepth x + B :=
  (hSelW_le_depth sp B hsp).1

theorem fragH_bound (d : Document) : ∀ (k : Nat) (nm : Name), fragH d k nm ≤ k * docDepth d
  | 0, _ => by simp [fragH]
  | k + 1, nm => by
      simp only [fragH]
      cases hf : d.fragByName nm with
      | none => simp
      | some fr =>
        simp only
        obtain ⟨hm, _⟩ := fragByName_some_mem d hf
        have h2 : selsDepth fr.sel ≤ docDepth d :=
          selsDepth_le_docDepth d (.frag fr) ((mem_fragments_iff d fr).1 hm)
        rw [Nat.succ_mul, Nat.add_comm]
        exact Nat.le_trans ((hSelW_le_depth (fragH d k) (k * docDepth d) (fragH_bound d k)).2 fr.sel) (Nat.add_le_add_right h2 _)

theorem Hs_bound (d : Document) (sel : List Selection) : Hs d sel ≤ selsDepth sel + (d.fragments.length + 1) * docDepth d :=
  (hSelW_le_depth (Hf d) _ fun nm => fragH_bound d _ nm).2 sel

theorem selset_depth_document (d : Document) (sel : List Selection) (h : Ev.enter (.selectionSet sel) ∈ traverseDocument d) :
    selsDepth sel ≤ docDepth d := by
  -- the traversal enters what the walk enters, whatever the schema: take one with nothing but a query root
  have hq : (Schema.queryType [.type (.object nQuery [] [])]).isSome = true := rfl
  obtain ⟨env, hm⟩ := (mem_walkOf_iff _ d hq _).2 h
  exact selset_depth_walk _ d hm

end Gql
