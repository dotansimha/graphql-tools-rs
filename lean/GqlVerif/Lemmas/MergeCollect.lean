/-
  Lemmas/MergeCollect.lean — `collect_fields_and_fragment_names`: the ordered field map is the list
  of fields the spec collects without following spreads, grouped by response key; the fragment names
  are the spreads it follows (`topSpreads`), so on selection sets without spreads there are none.
-/
import GqlVerif.Spec.Merge
import GqlVerif.Lemmas.AssocList
import GqlVerif.Lemmas.Traverse
namespace Gql
open Gql.Spec

def keyOf (a : AstAndDef) : Name := a.field.responseKey

def groupInto (fm : FieldMap) (F : List AstAndDef) : FieldMap :=
  F.foldl (fun fm a => alUpdate fm (keyOf a) [] (· ++ [a])) fm

theorem groupInto_append (fm : FieldMap) (A B : List AstAndDef) :
    groupInto fm (A ++ B) = groupInto (groupInto fm A) B := by
  simp [groupInto, List.foldl_append]

theorem collect_ff (s : Schema) (spread : Name → List AstAndDef) :
    (∀ (x : Selection) (parent : Option TypeDef) (acc : FieldMap × List Name), recursiveSpreadsSel x = [] →
      mergeCollectSel s parent x acc = (groupInto acc.1 (specFieldsSelWith s spread parent x), acc.2)) ∧
    ∀ (xs : List Selection) (parent : Option TypeDef) (acc : FieldMap × List Name), recursiveSpreads xs = [] →
      mergeCollectSels s parent xs acc = (groupInto acc.1 (specFieldsWith s spread parent xs), acc.2) := by
  refine sels_induction ?_ ?_ ?_ ?_ ?_
  · rintro _ _ _ _ _ _ _ _ ⟨_, _⟩ _
    rfl
  · exact fun _ _ _ _ _ h => nomatch h
  · exact fun _ tc _ sel ih parent acc h => ih _ acc h
  · exact fun _ _ _ => rfl
  · intro x xs ih1 ih2 parent acc h
    simp only [recursiveSpreads, List.append_eq_nil_iff] at h
    simp only [mergeCollectSels, specFieldsWith, groupInto_append]
    rw [ih1 parent acc h.1, ih2 parent _ h.2]

theorem collectSel_ff (s : Schema) (spread : Name → List AstAndDef) :
    ∀ (x : Selection) (parent : Option TypeDef) (acc : FieldMap × List Name), recursiveSpreadsSel x = [] →
      mergeCollectSel s parent x acc = (groupInto acc.1 (specFieldsSelWith s spread parent x), acc.2) :=
  (collect_ff s spread).1

theorem collect_map (s : Schema) :
    (∀ (x : Selection) (parent : Option TypeDef) (acc : FieldMap × List Name),
      (mergeCollectSel s parent x acc).1 = groupInto acc.1 (specFieldsSelWith s (fun _ => []) parent x)) ∧
    ∀ (xs : List Selection) (parent : Option TypeDef) (acc : FieldMap × List Name),
      (mergeCollectSels s parent xs acc).1 = groupInto acc.1 (specFieldsWith s (fun _ => []) parent xs) := by
  refine sels_induction ?_ ?_ ?_ ?_ ?_
  · rintro _ _ _ _ _ _ _ _ ⟨_, _⟩
    rfl
  · rintro _ _ _ _ ⟨_, _⟩
    rfl
  · exact fun _ tc _ sel ih parent acc => ih _ acc
  · exact fun _ _ => rfl
  · intro x xs ih1 ih2 parent acc
    simp only [mergeCollectSels, specFieldsWith, groupInto_append]
    rw [ih2 parent _, ih1 parent acc]

mutual
def topSpreadsSel : Selection → List Name
  | .field _ _ _ _ _ _ => []
  | .spread _ nm _ => [nm]
  | .inline _ _ _ sel => topSpreads sel
def topSpreads : List Selection → List Name
  | [] => []
  | x :: xs => topSpreadsSel x ++ topSpreads xs
end

theorem topSpreads_sub (nm : Name) : (∀ x, nm ∈ topSpreadsSel x → nm ∈ (recursiveSpreadsSel x).map (·.name)) ∧
    ∀ xs, nm ∈ topSpreads xs → nm ∈ (recursiveSpreads xs).map (·.name) := by
  refine sels_induction ?_ ?_ ?_ ?_ ?_
  · exact fun _ _ _ _ _ _ _ h => absurd h List.not_mem_nil
  · exact fun _ _ _ h => h
  · exact fun _ _ _ _ ih h => ih h
  · exact fun h => absurd h List.not_mem_nil
  · intro x xs ihx ihxs h
    rw [recursiveSpreads, List.map_append]
    exact List.mem_append.2 ((List.mem_append.1 h).imp ihx ihxs)

theorem specFields_congr (s : Schema) (sp1 sp2 : Name → List AstAndDef) :
    (∀ (x : Selection) (parent : Option TypeDef),
      (∀ nm ∈ topSpreadsSel x, sp1 nm = sp2 nm) → specFieldsSelWith s sp1 parent x = specFieldsSelWith s sp2 parent x) ∧
    ∀ (xs : List Selection) (parent : Option TypeDef),
      (∀ nm ∈ topSpreads xs, sp1 nm = sp2 nm) → specFieldsWith s sp1 parent xs = specFieldsWith s sp2 parent xs := by
  refine sels_induction ?_ ?_ ?_ ?_ ?_
  · exact fun _ _ _ _ _ _ _ _ _ => rfl
  · exact fun _ nm _ _ h => h nm List.mem_cons_self
  · exact fun _ _ _ _ ih _ h => ih _ h
  · exact fun _ _ => rfl
  · intro x xs ihx ihxs parent h
    rw [specFieldsWith, specFieldsWith, ihx parent fun nm hnm => h nm (List.mem_append_left _ hnm),
      ihxs parent fun nm hnm => h nm (List.mem_append_right _ hnm)]

theorem specFieldsWith_ff (s : Schema) (sp1 sp2 : Name → List AstAndDef) (parent : Option TypeDef) (sel : List Selection) :
    recursiveSpreads sel = [] → specFieldsWith s sp1 parent sel = specFieldsWith s sp2 parent sel :=
  fun h => (specFields_congr s sp1 sp2).2 sel parent fun nm hnm =>
    absurd ((topSpreads_sub nm).2 sel hnm) (by rw [h]; exact List.not_mem_nil)

theorem mem_specFields_iff (s : Schema) (sp : Name → List AstAndDef) (a : AstAndDef) :
    (∀ x parent, a ∈ specFieldsSelWith s sp parent x ↔
      a ∈ specFieldsSelWith s (fun _ => []) parent x ∨ a ∈ (topSpreadsSel x).flatMap sp) ∧
    ∀ xs parent, a ∈ specFieldsWith s sp parent xs ↔
      a ∈ specFieldsWith s (fun _ => []) parent xs ∨ a ∈ (topSpreads xs).flatMap sp := by
  refine sels_induction ?_ ?_ ?_ ?_ ?_
  · exact fun _ _ _ _ _ _ _ _ => ⟨Or.inl, fun h => h.resolve_right List.not_mem_nil⟩
  · intro _ nm _ _
    rw [topSpreadsSel, List.flatMap_cons, List.flatMap_nil, List.append_nil]
    exact ⟨Or.inr, fun h => h.resolve_left List.not_mem_nil⟩
  · exact fun _ _ _ _ ih _ => ih _
  · exact fun _ => ⟨fun h => absurd h List.not_mem_nil, fun h => h.elim id id⟩
  · intro x xs ihx ihxs parent
    rw [specFieldsWith, specFieldsWith, topSpreads, List.flatMap_append, List.mem_append, List.mem_append, List.mem_append,
      ihx, ihxs]
    exact or_or_or_comm

theorem spec_subset (s : Schema) (sp1 sp2 : Name → List AstAndDef) (h : ∀ nm, sp1 nm ⊆ sp2 nm) :
    (∀ (x : Selection) (parent : Option TypeDef), specFieldsSelWith s sp1 parent x ⊆ specFieldsSelWith s sp2 parent x) ∧
    ∀ (xs : List Selection) (parent : Option TypeDef), specFieldsWith s sp1 parent xs ⊆ specFieldsWith s sp2 parent xs := by
  have hsp : ∀ {l : List Name} {a}, a ∈ l.flatMap sp1 → a ∈ l.flatMap sp2 := fun ha =>
    let ⟨nm, hnm, ha⟩ := List.mem_flatMap.1 ha
    List.mem_flatMap.2 ⟨nm, hnm, h nm ha⟩
  exact ⟨fun x parent a ha =>
      ((mem_specFields_iff s sp2 a).1 x parent).2 ((((mem_specFields_iff s sp1 a).1 x parent).1 ha).imp_right hsp),
    fun xs parent a ha =>
      ((mem_specFields_iff s sp2 a).2 xs parent).2 ((((mem_specFields_iff s sp1 a).2 xs parent).1 ha).imp_right hsp)⟩

theorem mem_collect_names (s : Schema) (nm : Name) :
    (∀ x parent acc, nm ∈ (mergeCollectSel s parent x acc).2 ↔ nm ∈ acc.2 ∨ nm ∈ topSpreadsSel x) ∧
    ∀ xs parent acc, nm ∈ (mergeCollectSels s parent xs acc).2 ↔ nm ∈ acc.2 ∨ nm ∈ topSpreads xs := by
  refine sels_induction ?_ ?_ ?_ ?_ ?_
  · exact fun _ _ _ _ _ _ _ _ _ => ⟨Or.inl, fun h => h.resolve_right List.not_mem_nil⟩
  · rintro _ name _ _ ⟨fm, fns⟩
    show nm ∈ (if fns.contains name then fns else fns ++ [name]) ↔ nm ∈ fns ∨ nm ∈ [name]
    by_cases hc : fns.contains name = true
    · rw [if_pos hc, List.mem_singleton]
      exact ⟨Or.inl, fun h => h.elim id fun e => e ▸ List.contains_iff_mem.1 hc⟩
    · rw [if_neg hc, List.mem_append]
  · exact fun _ _ _ _ ih _ _ => ih _ _
  · exact fun _ _ => ⟨Or.inl, fun h => h.resolve_right List.not_mem_nil⟩
  · intro x xs ihx ihxs parent acc
    rw [mergeCollectSels, ihxs, ihx, topSpreads, List.mem_append, or_assoc]

theorem fieldsAndFragmentNames_ff (s : Schema) (spread : Name → List AstAndDef) (parent : Option TypeDef)
    (sel : List Selection) (h : recursiveSpreads sel = []) :
    fieldsAndFragmentNames s parent sel = (groupInto [] (specFieldsWith s spread parent sel), []) := by
  unfold fieldsAndFragmentNames
  exact (collect_ff s spread).2 sel parent ([], []) h

theorem mem_of_alGet {κ ν : Type} [DecidableEq κ] (m : List (κ × ν)) (k : κ) (v : ν) (h : alGet m k = some v) : (k, v) ∈ m := by
  unfold alGet at h
  simp only [Option.map_eq_some_iff] at h
  obtain ⟨⟨a, b⟩, hp, rfl⟩ := h
  have hk := List.find?_some hp
  simp only [decide_eq_true_eq] at hk
  subst hk
  exact List.mem_of_find?_eq_some hp

theorem mem_alUpdate_snoc {κ ν : Type} [DecidableEq κ] {m : List (κ × List ν)} {k : κ} {a : ν} {p : κ × List ν}
    (h : p ∈ alUpdate m k [] (· ++ [a])) {x : ν} (hx : x ∈ p.2) : (∃ q ∈ m, q.1 = p.1 ∧ x ∈ q.2) ∨ (p.1 = k ∧ x = a) := by
  rcases mem_alUpdate.1 h with ⟨hp, _⟩ | ⟨v, hv, rfl⟩ | ⟨_, rfl⟩
  · exact Or.inl ⟨p, hp, rfl, hx⟩
  · exact (List.mem_append.1 hx).imp (fun hx => ⟨_, hv, rfl, hx⟩) fun hx => ⟨rfl, List.mem_singleton.1 hx⟩
  · exact Or.inr ⟨rfl, List.mem_singleton.1 hx⟩

theorem mem_groupInto_val : ∀ (F : List AstAndDef) {fm : FieldMap} {p : Name × List AstAndDef}, p ∈ groupInto fm F →
    ∀ {x : AstAndDef}, x ∈ p.2 → (∃ q ∈ fm, q.1 = p.1 ∧ x ∈ q.2) ∨ (x ∈ F ∧ keyOf x = p.1)
  | [], _, p, h, _, hx => Or.inl ⟨p, h, rfl, hx⟩
  | a :: F, fm, p, h, x, hx => by
      rcases mem_groupInto_val F h hx with ⟨q, hq, hqp, hxq⟩ | ⟨hxF, hk⟩
      · rcases mem_alUpdate_snoc hq hxq with ⟨q', hq', hk, hx'⟩ | ⟨hk, rfl⟩
        · exact Or.inl ⟨q', hq', hk.trans hqp, hx'⟩
        · exact Or.inr ⟨List.mem_cons_self, hk.symm.trans hqp⟩
      · exact Or.inr ⟨List.mem_cons_of_mem _ hxF, hk⟩

theorem alGet_groupInto_nil (F : List AstAndDef) (k : Name) :
    (alGet (groupInto [] F) k).getD [] = F.filter (fun a => keyOf a == k) :=
  alGet_alGroup keyOf k F []

theorem mem_groupInto (F : List AstAndDef) (k : Name) (fs : List AstAndDef) (h : (k, fs) ∈ groupInto [] F) :
    fs = F.filter (fun a => keyOf a == k) :=
  ((mem_alGroup_nil keyOf).1 h).2

theorem forall_groupInto (F : List AstAndDef) (Q : Name → List AstAndDef → Prop) (hnil : ∀ k, Q k []) :
    (∀ kv ∈ groupInto [] F, Q kv.1 kv.2) ↔ ∀ k, Q k (F.filter fun a => keyOf a == k) := by
  constructor
  · intro h k
    cases hk : F.filter (fun a => keyOf a == k) with
    | nil => exact hnil k
    | cons a l =>
      obtain ⟨haF, hak⟩ := List.mem_filter.1 (hk ▸ List.mem_cons_self : a ∈ F.filter fun a => keyOf a == k)
      exact hk ▸ h _ ((mem_alGroup_nil keyOf).2 ⟨⟨a, haF, beq_iff_eq.1 hak⟩, rfl⟩)
  · intro h kv hkv
    rw [mem_groupInto F kv.1 kv.2 hkv]
    exact h kv.1

end Gql
