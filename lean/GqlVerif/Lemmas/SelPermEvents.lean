/-
  Lemmas/SelPermEvents.lean — reordering selections and the walk, for every callback: each callback
  of the one document has a counterpart in the other with the same type environment and the same
  node up to the order of the selections below it (`ev_doc_rel`); the lists the specification
  computes from selections (spreads, directives, `__typename` fields) keep their members; what a
  `FlatFn` reads off a callback is the same on counterparts.
-/
import GqlVerif.Lemmas.SelPermSpec
namespace Gql
open Gql.Spec

inductive NodeRel : Node → Node → Prop
  | same (n : Node) : NodeRel n n
  | field (f : FieldNode) {sel' : List Selection} : SelsEq f.sel sel' → NodeRel (.field f) (.field { f with sel := sel' })
  | inline (i : InlineNode) {sel' : List Selection} : SelsEq i.sel sel' → NodeRel (.inline i) (.inline { i with sel := sel' })
  | selectionSet {sel sel' : List Selection} : SelsEq sel sel' → NodeRel (.selectionSet sel) (.selectionSet sel')
  | operation (o : Operation) {sel' : List Selection} : SelsEq o.sel sel' → NodeRel (.operation o) (.operation { o with sel := sel' })
  | fragmentDef (f : FragDef) {sel' : List Selection} : SelsEq f.sel sel' → NodeRel (.fragmentDef f) (.fragmentDef { f with sel := sel' })
  | document {d d' : Document} : DocRel d d' → NodeRel (.document d) (.document d')

theorem NodeRel.trans {a b c : Node} (h1 : NodeRel a b) (h2 : NodeRel b c) : NodeRel a c := by
  cases h1 with
  | same => exact h2
  | field f hs =>
    cases h2 with
    | same => exact .field f hs
    | field _ hs2 => exact .field f (.trans hs hs2)
  | inline i hs =>
    cases h2 with
    | same => exact .inline i hs
    | inline _ hs2 => exact .inline i (.trans hs hs2)
  | selectionSet hs =>
    cases h2 with
    | same => exact .selectionSet hs
    | selectionSet hs2 => exact .selectionSet (.trans hs hs2)
  | operation o hs =>
    cases h2 with
    | same => exact .operation o hs
    | operation _ hs2 => exact .operation o (.trans hs hs2)
  | fragmentDef f hs =>
    cases h2 with
    | same => exact .fragmentDef f hs
    | fragmentDef _ hs2 => exact .fragmentDef f (.trans hs hs2)
  | document hd =>
    cases h2 with
    | same => exact .document hd
    | document hd2 => exact .document (.trans hd hd2)

inductive EvRel : Ev → Ev → Prop
  | enter {n n' : Node} : NodeRel n n' → EvRel (.enter n) (.enter n')
  | leave {n n' : Node} : NodeRel n n' → EvRel (.leave n) (.leave n')

theorem EvRel.refl : ∀ e : Ev, EvRel e e
  | .enter n => .enter (.same n)
  | .leave n => .leave (.same n)

theorem EvRel.trans {a b c : Ev} (h1 : EvRel a b) (h2 : EvRel b c) : EvRel a c := by
  cases h1 with
  | enter h => cases h2 with | enter h' => exact .enter (h.trans h')
  | leave h => cases h2 with | leave h' => exact .leave (h.trans h')

inductive CbRel : Ev × Snap → Ev × Snap → Prop
  | mk {ev ev' : Ev} (env : Snap) : EvRel ev ev' → CbRel (ev, env) (ev', env)

theorem CbRel.refl (c : Ev × Snap) : CbRel c c := .mk c.2 (.refl c.1)

theorem CbRel.trans {a b c : Ev × Snap} (h1 : CbRel a b) (h2 : CbRel b c) : CbRel a c := by
  cases h1 with
  | mk env h1 => cases h2 with | mk _ h2 => exact .mk env (h1.trans h2)

def TrRel (t t' : Trace) : Prop := Cover CbRel t t'

theorem TrRel.mem {t t' : Trace} (h : TrRel t t') {ev : Ev} {env : Snap} (hm : (ev, env) ∈ t) :
    ∃ ev', EvRel ev ev' ∧ (ev', env) ∈ t' := by
  obtain ⟨_, hm', hr⟩ := h _ hm
  cases hr with
  | mk _ hr => exact ⟨_, hr, hm'⟩

theorem TrRel.of_perm {t t' : Trace} (h : t.Perm t') : TrRel t t' := Cover.of_perm CbRel.refl h

theorem TrRel.refl (t : Trace) : TrRel t t := .of_perm (.refl t)

theorem TrRel.append {a a' b b' : Trace} (h1 : TrRel a a') (h2 : TrRel b b') : TrRel (a ++ b) (a' ++ b') := Cover.append h1 h2

theorem TrRel.bracket {n n' : Node} (hn : NodeRel n n') (env : Snap) {t t' : Trace} (h : TrRel t t') :
    TrRel ((.enter n, env) :: t ++ [(.leave n, env)]) ((.enter n', env) :: t' ++ [(.leave n', env)]) :=
  Cover.cons (h.append (Cover.cons (TrRel.refl []) (.mk env (.leave hn)))) (.mk env (.enter hn))

theorem TrRel.selectionSet {sel sel' : List Selection} (hs : SelsEq sel sel') (e : Snap) {f g : Snap → Trace}
    (h : ∀ e', TrRel (f e') (g e')) : TrRel (walkSelectionSetWith e sel f) (walkSelectionSetWith e sel' g) :=
  (h _).bracket (.selectionSet hs) _

theorem ev_walk_rel (s : Schema) {xs ys : List Selection} (h : SelsEq xs ys) :
    ∀ e : Snap, TrRel (walkSelections s e xs) (walkSelections s e ys) := by
  induction h with
  | refl l => exact fun e => .refl _
  | swap x y l => intro e; simp only [walkSelections]; exact .of_perm (List.perm_append_comm_assoc _ _ _)
  | cons x _ ih => intro e; simp only [walkSelections]; exact (TrRel.refl _).append (ih e)
  | @field pos alias name args dirs sel0 sel0' l hsel ih =>
    intro e
    have hf := NodeRel.field ⟨pos, alias, name, args, dirs, sel0⟩ hsel
    simp only [walkSelections, walkSelection]
    exact (TrRel.bracket hf _ ((TrRel.refl _).append (.selectionSet hsel _ ih))).append (.refl _)
  | @inline pos tc dirs sel0 sel0' l hsel ih =>
    intro e
    have hi := NodeRel.inline ⟨pos, tc, dirs, sel0⟩ hsel
    simp only [walkSelections, walkSelection]
    exact (TrRel.bracket hi _ ((TrRel.refl _).append (.selectionSet hsel _ ih))).append (.refl _)
  | trans _ _ ih1 ih2 => exact fun e => Cover.trans (ih1 e) CbRel.trans (ih2 e)

theorem ev_set_rel (s : Schema) {xs ys : List Selection} (hxy : SelsEq xs ys) (e : Snap) :
    TrRel (walkSelectionSet s e xs) (walkSelectionSet s e ys) :=
  .selectionSet hxy e (ev_walk_rel s hxy)

theorem ev_def_rel (s : Schema) {x y : Definition} (h : DefRel x y) : TrRel (defTrace s x) (defTrace s y) := by
  cases h with
  | op o hs =>
    simp only [defTrace, walkDefinition]
    cases rootTypeName s o.kind with
    | none => exact .refl _
    | some tn =>
      simp only [Option.map_some, Option.getD_some]
      exact .bracket (.operation o hs) _ ((TrRel.refl _).append (ev_set_rel s hs _))
  | frag f hs =>
    simp only [defTrace, walkDefinition, Option.getD_some]
    exact .bracket (.fragmentDef f hs) _ ((TrRel.refl _).append (ev_set_rel s hs _))

theorem ev_defs_rel (s : Schema) {d d' : Document} (h : DocRel d d') : TrRel (d.flatMap (defTrace s)) (d'.flatMap (defTrace s)) :=
  Cover.flatMap h.mem _ fun _ _ => ev_def_rel s

theorem ev_doc_rel (s : Schema) (hq : s.queryType.isSome = true) {d d' : Document} (hdd : DocRel d d')
    (ev : Ev) (env : Snap) (hm : (ev, env) ∈ walkOf s d) : ∃ ev', EvRel ev ev' ∧ (ev', env) ∈ walkOf s d' := by
  rw [(walkOf_defs s d hq).1] at hm
  rw [(walkOf_defs s d' hq).1]
  exact (TrRel.bracket (.document hdd) _ (ev_defs_rel s hdd)).mem hm

theorem selsEq_nil_iff {a b : List Selection} (h : SelsEq a b) : a = [] ↔ b = [] := by
  induction h with
  | refl l => exact Iff.rfl
  | swap x y l | cons x _ _ | field pos alias name args dirs l _ _ | inline pos tc dirs l _ _ => simp
  | trans _ _ ih1 ih2 => exact ih1.trans ih2

theorem recSpreads_rel {a b : List Selection} (h : SelsEq a b) : ∀ x, x ∈ recursiveSpreads a ↔ x ∈ recursiveSpreads b := by
  induction h with
  | refl l => exact fun _ => Iff.rfl
  | swap x y l => intro z; simp only [recursiveSpreads, List.mem_append, or_left_comm]
  | cons x _ ih => intro z; simp only [recursiveSpreads, List.mem_append, ih z]
  | field pos alias name args dirs l _ ih | inline pos tc dirs l _ ih =>
    intro z; simp only [recursiveSpreads, recursiveSpreadsSel, List.mem_append, ih z]
  | trans _ _ ih1 ih2 => exact fun z => (ih1 z).trans (ih2 z)

theorem mem_spreadsOf {d : Document} {n x : Name} :
    x ∈ spreadsOf d n ↔ ∃ f, Definition.frag f ∈ d ∧ f.name = n ∧ ∃ sp ∈ recursiveSpreads f.sel, sp.name = x := by
  simp only [spreadsOf, List.mem_flatMap, List.mem_filter, List.mem_map, beq_iff_eq, mem_fragments_iff, and_assoc]

def isTypenameField : Selection → Bool
  | .field _ _ n _ _ _ => n == nTypename
  | _ => false

theorem rootTypenameFields_ne_nil : ∀ l : List Selection, rootTypenameFields l ≠ [] ↔ l.any isTypenameField = true
  | [] => by simp only [rootTypenameFields, List.any_nil, ne_eq, not_true_eq_false, Bool.false_eq_true]
  | .field _ _ n _ _ _ :: l => by
      simp only [rootTypenameFields, List.any_cons, isTypenameField]
      cases n == nTypename
      · simp only [Bool.false_eq_true, if_false, Bool.false_or]; exact rootTypenameFields_ne_nil l
      · simp only [if_true, Bool.true_or, ne_eq, reduceCtorEq, not_false_eq_true]
  | .spread _ _ _ :: l => by
      simp only [rootTypenameFields, List.any_cons, isTypenameField, Bool.false_or]; exact rootTypenameFields_ne_nil l
  | .inline _ _ _ _ :: l => by
      simp only [rootTypenameFields, List.any_cons, isTypenameField, Bool.false_or]; exact rootTypenameFields_ne_nil l

theorem rootTypename_rel {a b : List Selection} (h : SelsEq a b) : rootTypenameFields a ≠ [] ↔ rootTypenameFields b ≠ [] := by
  have mp : ∀ {a b : List Selection}, SelsEq a b → a.any isTypenameField = true → b.any isTypenameField = true := by
    intro a b h ha
    obtain ⟨x, hx, ht⟩ := List.any_eq_true.1 ha
    obtain ⟨y, hy, hr⟩ := selsEq_mem h x hx
    refine List.any_eq_true.2 ⟨y, hy, ?_⟩
    cases hr <;> exact ht
  rw [rootTypenameFields_ne_nil, rootTypenameFields_ne_nil]
  exact ⟨mp h, mp h.symm⟩

theorem dirsOfSels_rel {a b : List Selection} (h : SelsEq a b) : ∀ p, p ∈ directivesOfSelections a ↔ p ∈ directivesOfSelections b := by
  induction h with
  | refl l => exact fun _ => Iff.rfl
  | swap x y l => intro p; simp only [directivesOfSelections, List.mem_append, or_left_comm]
  | cons x _ ih => intro p; simp only [directivesOfSelections, List.mem_append, ih p]
  | field pos alias name args dirs l _ ih | inline pos tc dirs l _ ih =>
    intro p; simp only [directivesOfSelections, directivesOfSelection, List.mem_append, ih p]
  | trans _ _ ih1 ih2 => exact fun p => (ih1 p).trans (ih2 p)

theorem dirListsOfSels_rel {a b : List Selection} (h : SelsEq a b) : ∀ p, p ∈ directiveListsOfSelections a ↔ p ∈ directiveListsOfSelections b := by
  induction h with
  | refl l => exact fun _ => Iff.rfl
  | swap x y l => intro p; simp only [directiveListsOfSelections, List.mem_append, or_left_comm]
  | cons x _ ih => intro p; simp only [directiveListsOfSelections, List.mem_append, ih p]
  | field pos alias name args dirs l _ ih | inline pos tc dirs l _ ih =>
    intro p; simp only [directiveListsOfSelections, directiveListsOfSelection, List.mem_append, List.mem_cons, ih p]
  | trans _ _ ih1 ih2 => exact fun p => (ih1 p).trans (ih2 p)

/-- a function of a callback that does not look below fields, inline fragments, selection sets or definitions -/
def FlatFn {γ : Type} (g : Ev × Snap → γ) : Prop := ∀ ev ev' env, EvRel ev ev' → g (ev, env) = g (ev', env)

theorem flatFn_argVars : FlatFn argVars := by
  intro ev ev' env h
  cases h with
  | enter hn | leave hn => cases hn <;> rfl

theorem flatFn_varUsage : FlatFn varUsage := by
  intro ev ev' env h
  cases h with
  | enter hn | leave hn => cases hn <;> rfl

theorem flatFn_siteOf : FlatFn siteOf := by
  intro ev ev' env h
  cases h with
  | enter hn | leave hn => cases hn <;> rfl

end Gql
