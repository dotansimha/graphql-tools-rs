/-
  Lemmas/MergeCalls.lean — one call level of the five mutually recursive functions of the
  field-merging rule (Model/Rules/Merge.lean): each of them on a state that is not stuck, as one
  equation in which every intermediate result occurs once, and the cases in which a call hands its
  state back with nothing reported.
-/
import GqlVerif.Spec.Merge
namespace Gql

/-- the flag under which `find_conflict` compares the two sub-selections -/
def meOf (pe : Bool) (a b : AstAndDef) : Bool :=
  pe || (optName a.parent != optName b.parent && optIsObject a.parent && optIsObject b.parent)

def runAll {α : Type} (f : α → MState → MRes) (L : List α) (acc : MRes) : MRes :=
  L.foldl (fun acc x => (acc.1 ++ (f x acc.2).1, (f x acc.2).2)) acc

def MRes.setVisited (r : MRes) (v : List Name) : MRes := (r.1, { r.2 with visited := v })

/-- the loop over the nested spreads in `collect_conflicts_between_fields_and_fragment`: a name already visited is skipped -/
def visitStep (f : Name → MState → MRes) (acc : MRes) (fn : Name) : MRes :=
  if acc.2.visited.contains fn then (acc.1, { acc.2 with guardHit := true })
  else (acc.1 ++ (f fn { acc.2 with visited := acc.2.visited ++ [fn] }).1, (f fn { acc.2 with visited := acc.2.visited ++ [fn] }).2)

variable (s : Schema) (d : Document) (n : Nat)

theorem findConflict_stuck (key : Name) (a b : AstAndDef) (pe : Bool) {st : MState} (hst : st.stuck = true) :
    findConflict s d (n + 1) key a b pe st = (none, st) := by
  rw [findConflict, if_pos hst]

theorem findConflict_unstuck (key : Name) (a b : AstAndDef) (pe : Bool) {st : MState} (hst : st.stuck = false) :
    findConflict s d (n + 1) key a b pe st =
      if !meOf pe a b && a.field.name != b.field.name then
        (some ⟨key, .differentFields a.field.name b.field.name, [a.field.pos], [b.field.pos]⟩, st)
      else if !meOf pe a b && !sameArguments a.field.args b.field.args then
        (some ⟨key, .differingArguments, [a.field.pos], [b.field.pos]⟩, st)
      else match typeConflictOf s a b with
        | some (x, y) => (some ⟨key, .conflictingTypes x y, [a.field.pos], [b.field.pos]⟩, st)
        | none =>
          if !a.field.sel.isEmpty && !b.field.sel.isEmpty then
            (subfieldConflicts (betweenSubSelectionSets s d n (meOf pe a b) (a.fdef.map (·.ty.inner)) a.field.sel
                (b.fdef.map (·.ty.inner)) b.field.sel st).1 key a.field.pos a.field.pos,
              (betweenSubSelectionSets s d n (meOf pe a b) (a.fdef.map (·.ty.inner)) a.field.sel
                (b.fdef.map (·.ty.inner)) b.field.sel st).2)
          else (none, st) := by
  rw [findConflict, hst, if_neg Bool.false_ne_true]
  rfl

theorem findConflict_state (key : Name) (a b : AstAndDef) (pe : Bool) {st : MState} (hst : st.stuck = false) :
    (findConflict s d (n + 1) key a b pe st).2 = st ∨
    (findConflict s d (n + 1) key a b pe st).2 = (betweenSubSelectionSets s d n (meOf pe a b) (a.fdef.map (·.ty.inner)) a.field.sel
      (b.fdef.map (·.ty.inner)) b.field.sel st).2 := by
  rw [findConflict_unstuck s d n key a b pe hst]
  by_cases h1 : (!meOf pe a b && a.field.name != b.field.name) = true
  · rw [if_pos h1]; exact Or.inl rfl
  rw [if_neg h1]
  by_cases h2 : (!meOf pe a b && !sameArguments a.field.args b.field.args) = true
  · rw [if_pos h2]; exact Or.inl rfl
  rw [if_neg h2]
  cases typeConflictOf s a b with
  | some xy => exact Or.inl rfl
  | none =>
    by_cases h3 : (!a.field.sel.isEmpty && !b.field.sel.isEmpty) = true
    · exact Or.inr (by rw [if_pos h3])
    · exact Or.inl (by rw [if_neg h3])

theorem conflictsBetween_unstuck (me : Bool) (fm1 fm2 : FieldMap) {st : MState} (hst : st.stuck = false) :
    conflictsBetween s d (n + 1) me fm1 fm2 st = fm1.foldl (betweenKeyStep (findConflict s d n) me fm2) ([], st) := by
  rw [conflictsBetween, hst, if_neg Bool.false_ne_true]

theorem betweenSubSelectionSets_unstuck (me : Bool) (pn1 : Option Name) (sel1 : List Selection) (pn2 : Option Name)
    (sel2 : List Selection) {st : MState} (hst : st.stuck = false) {c1 c2 : FieldMap × List Name}
    (hc1 : fieldsAndFragmentNames s (pn1.bind s.typeByName) sel1 = c1)
    (hc2 : fieldsAndFragmentNames s (pn2.bind s.typeByName) sel2 = c2) :
    betweenSubSelectionSets s d (n + 1) me pn1 sel1 pn2 sel2 st =
      c1.2.foldl (fun acc a => runAll (fun b => betweenFragments s d n a b me) c2.2 acc)
        ((runAll (fun fn => fieldsAndFragment s d n c2.1 fn me) c1.2
          ((runAll (fun fn => fieldsAndFragment s d n c1.1 fn me) c2.2
            ((conflictsBetween s d n me c1.1 c2.1 st).setVisited [])).setVisited [])).setVisited
          (conflictsBetween s d n me c1.1 c2.1 st).2.visited) := by
  subst hc1 hc2
  rw [betweenSubSelectionSets, hst, if_neg Bool.false_ne_true]
  rfl

theorem fieldsAndFragment_undefined (fm : FieldMap) {nm : Name} (me : Bool) (st : MState) (h : d.fragByName nm = none) :
    fieldsAndFragment s d (n + 1) fm nm me st = ([], st) := by
  simp only [fieldsAndFragment, h, ite_self]

theorem fieldsAndFragment_unstuck (fm : FieldMap) {nm : Name} (me : Bool) {st : MState} (hst : st.stuck = false)
    {frag : FragDef} (h : d.fragByName nm = some frag) :
    fieldsAndFragment s d (n + 1) fm nm me st =
      if (referencedFieldsAndFragmentNames s frag).2.contains nm then ([], st)
      else (referencedFieldsAndFragmentNames s frag).2.foldl (visitStep (fun fn => fieldsAndFragment s d n fm fn me))
        (conflictsBetween s d n me fm (referencedFieldsAndFragmentNames s frag).1 st) := by
  rw [fieldsAndFragment, hst, if_neg Bool.false_ne_true, h]
  rfl

theorem betweenFragments_skip {n1 n2 : Name} {me : Bool} (st : MState)
    (h : (n1 == n2) = true ∨ st.compared.containsPair n1 n2 me = true) :
    betweenFragments s d (n + 1) n1 n2 me st = ([], st) := by
  simp only [betweenFragments]
  rcases h with h | h
  · rw [if_pos h, ite_self]
  · rw [if_pos h, ite_self, ite_self]

section
variable {n1 n2 : Name} {me : Bool} {st : MState} (hst : st.stuck = false) (hne : (n1 == n2) = false)
  (hc : st.compared.containsPair n1 n2 me = false)
include hst hne hc

theorem betweenFragments_undefined (h : d.fragByName n1 = none ∨ d.fragByName n2 = none) :
    betweenFragments s d (n + 1) n1 n2 me st = ([], { st with compared := st.compared.insertPair n1 n2 me }) := by
  simp only [betweenFragments, hst, hne, hc, Bool.false_eq_true, if_false]
  rcases h with h | h
  · rw [h]
  · rw [h]; cases d.fragByName n1 <;> rfl

theorem betweenFragments_unstuck {f1 f2 : FragDef} (h1 : d.fragByName n1 = some f1) (h2 : d.fragByName n2 = some f2) :
    betweenFragments s d (n + 1) n1 n2 me st =
      runAll (fun x => betweenFragments s d n x n2 me) (referencedFieldsAndFragmentNames s f1).2
        (runAll (fun x => betweenFragments s d n n1 x me) (referencedFieldsAndFragmentNames s f2).2
          (conflictsBetween s d n me (referencedFieldsAndFragmentNames s f1).1 (referencedFieldsAndFragmentNames s f2).1
            { st with compared := st.compared.insertPair n1 n2 me })) := by
  rw [betweenFragments, hst, if_neg Bool.false_ne_true, hne, if_neg Bool.false_ne_true, hc, if_neg Bool.false_ne_true, h1, h2]
  rfl
end

/-- the loop of `find_conflicts_within_selection_set` over the recorded fragment names: an invariant of the result
    that is kept when one name is compared with the fields and then with the names after it -/
theorem loop_inv (fuel : Nat) (c : FieldMap × List Name) (I : MRes → Prop) : ∀ (names : List Name) (acc : MRes), I acc →
    (∀ f1 rest acc, (∀ x ∈ f1 :: rest, x ∈ names) → I acc →
      I (runAll (fun f2 => betweenFragments s d fuel f1 f2 false) rest
        (acc.1 ++ (fieldsAndFragment s d fuel c.1 f1 false acc.2).1, (fieldsAndFragment s d fuel c.1 f1 false acc.2).2))) →
    I (conflictsWithinSelectionSet.loop s d fuel c names acc)
  | [], _, h, _ => h
  | f1 :: rest, acc, h, hstep =>
      loop_inv fuel c I rest _ (hstep f1 rest acc (fun _ hx => hx) h) fun f1' rest' acc' hsub =>
        hstep f1' rest' acc' fun x hx => List.mem_cons_of_mem _ (hsub x hx)

end Gql
