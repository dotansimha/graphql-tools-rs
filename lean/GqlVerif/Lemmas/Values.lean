/-
  Lemmas/Values.lean — what values_of_correct_type.rs reports inside one literal, as a function of
  the expected type at its root only (`vErrs`): the rule's checks at the callbacks of the walk of
  the literal add up to it (`walk_voc`).
-/
import GqlVerif.Spec.Coercion
import GqlVerif.Lemmas.Fires
namespace Gql

/-- the per-callback check of the rule -/
def vocCheck (s : Schema) (e : Ev × Snap) : List Err := (valuesOfCorrectType.on s [] () e).2

theorem voc_runOn (s : Schema) (d : Document) (tr : Trace) :
    valuesOfCorrectType.runOn s d tr = tr.flatMap (vocCheck s) := by
  unfold valuesOfCorrectType
  rw [stateless_runOn]
  rfl

/-- required members missing / unknown members of an object literal at input object type -/
def objectMemberErrs (s : Schema) (τ : Option Ty) (fs : List (Name × Value)) : List Err :=
  match s.resolve τ with
  | some (.inputObject n fields) =>
    ((fields.filter fun f => f.isRequired && !fs.any (fun kv => kv.1 == f.name)).map fun f =>
      (⟨.valuesOfCorrectType, [], .requiredInputFieldMissing n f.name f.ty⟩ : Err))
    ++ ((fs.filter fun kv => !fields.any (fun f => f.name == kv.1)).map fun kv =>
      (⟨.valuesOfCorrectType, [], .unknownInputField kv.1 n⟩ : Err))
  | _ => []

/-- a context snapshot that only knows the expected input type -/
def snapOf (s : Schema) (τ : Option Ty) : Snap := { Snap.empty with inpLit := τ, inp := s.resolve τ }

mutual
/-- everything the rule reports inside the literal `v` expected at type `τ` -/
def vErrs (s : Schema) (τ : Option Ty) : Value → List Err
  | .var _ => []
  | .null => (match τ with | some t => if t.isNonNull then [⟨.valuesOfCorrectType, [], .expectedNonNullFoundNull t⟩] else [] | none => [])
  | .int i => validateValue s (snapOf s τ) (.int i)
  | .float f => validateValue s (snapOf s τ) (.float f)
  | .str x => validateValue s (snapOf s τ) (.str x)
  | .bool b => validateValue s (snapOf s τ) (.bool b)
  | .enum n => validateValue s (snapOf s τ) (.enum n)
  | .list vs =>
      (if !expectsList τ then validateCompositeValue s (snapOf s τ) (.list vs) else [])
        ++ vErrsList s (listItemType τ) vs
  | .obj fs =>
      validateCompositeValue s (snapOf s τ) (.obj fs) ++ objectMemberErrs s τ fs ++ vErrsFields s τ fs
def vErrsList (s : Schema) (ι : Option Ty) : List Value → List Err
  | [] => []
  | v :: vs => vErrs s ι v ++ vErrsList s ι vs
def vErrsFields (s : Schema) (τ : Option Ty) : List (Name × Value) → List Err
  | [] => []
  | (k, v) :: fs => vErrs s (objectFieldType s τ k) v ++ vErrsFields s τ fs
end

/-- the context answers the rule looks at -/
def InpOk (s : Schema) (e : Snap) : Prop := e.inp = s.resolve e.inpLit

theorem inpOk_withInput (s : Schema) (t : Option Ty) (e : Snap) : InpOk s (e.withInput s t) := rfl

theorem validateValue_snap (s : Schema) (e : Snap) (v : Value) :
    validateValue s e v = validateValue s (snapOf s e.inpLit) v := rfl
theorem validateCompositeValue_snap (s : Schema) (e : Snap) (v : Value) :
    validateCompositeValue s e v = validateCompositeValue s (snapOf s e.inpLit) v := rfl

theorem vocCheck_leave (s : Schema) (x : Node) (e : Snap) : vocCheck s (.leave x, e) = [] := rfl
theorem vocCheck_scalar (s : Schema) (v : Value) (e : Snap) :
    vocCheck s (.enter (.scalar v), e) = validateValue s e v := rfl
theorem vocCheck_enum (s : Schema) (n : Name) (e : Snap) :
    vocCheck s (.enter (.enumValue n), e) = validateValue s e (.enum n) := rfl
theorem vocCheck_list (s : Schema) (vs : List Value) (e : Snap) :
    vocCheck s (.enter (.list vs), e) =
      if !expectsList e.inpLit then validateCompositeValue s e (.list vs) else [] := rfl
theorem vocCheck_object (s : Schema) (fs : List (Name × Value)) (e : Snap) (he : InpOk s e) :
    vocCheck s (.enter (.object fs), e) =
      validateCompositeValue s e (.obj fs) ++ objectMemberErrs s e.inpLit fs := by
  unfold objectMemberErrs
  rw [← he]
  rfl

/-- a node without children: only entering it can report -/
theorem voc_leaf {s : Schema} {x l : Ev × Snap} (hl : vocCheck s l = [] := by rfl) :
    [x, l].flatMap (vocCheck s) = vocCheck s x := by
  rw [List.flatMap_cons, List.flatMap_singleton, hl, List.append_nil]

theorem walk_voc (s : Schema) :
    (∀ (v : Value) (e : Snap), InpOk s e → (walkValue s e v).flatMap (vocCheck s) = vErrs s e.inpLit v) ∧
    (∀ (vs : List Value) (e : Snap), InpOk s e → (walkValues s e vs).flatMap (vocCheck s) = vErrsList s e.inpLit vs) ∧
    ∀ (fs : List (Name × Value)) (e : Snap), InpOk s e →
      (walkObjFields s e fs).flatMap (vocCheck s) = vErrsFields s e.inpLit fs := by
  refine values_induction (fun _ _ _ => voc_leaf) (fun _ _ _ => voc_leaf) (fun _ _ _ => voc_leaf)
    (fun _ _ _ => voc_leaf) (fun _ _ _ => voc_leaf) (fun _ _ => voc_leaf) (fun _ _ _ => voc_leaf) ?_ ?_ (fun _ _ => rfl) ?_ (fun _ _ => rfl) ?_
  · intro vs ih e _
    simp only [walkValue, vErrs, List.flatMap_cons, List.flatMap_append, List.flatMap_nil,
      ih _ (inpOk_withInput s (listItemType e.inpLit) e), vocCheck_list, vocCheck_leave, List.append_nil,
      ← validateCompositeValue_snap]
    rfl
  · intro fs ih e he
    simp only [walkValue, vErrs, List.flatMap_cons, List.flatMap_append, List.flatMap_nil, ih e he,
      vocCheck_object s fs e he, vocCheck_leave, List.append_nil, ← validateCompositeValue_snap]
  · intro v vs hv hvs e he
    rw [walkValues, vErrsList, List.flatMap_append, hv e he, hvs e he]
  · intro k v fs hv hfs e he
    simp only [walkObjFields, vErrsFields, List.flatMap_cons, List.flatMap_append, List.flatMap_nil,
      hv _ (inpOk_withInput s (objectFieldType s e.inpLit k) e), hfs e he, vocCheck_leave, List.append_nil]
    rfl

theorem walkValue_voc (s : Schema) : ∀ (v : Value) (e : Snap), InpOk s e →
    (walkValue s e v).flatMap (vocCheck s) = vErrs s e.inpLit v := (walk_voc s).1
theorem walkValues_voc (s : Schema) : ∀ (vs : List Value) (e : Snap), InpOk s e →
    (walkValues s e vs).flatMap (vocCheck s) = vErrsList s e.inpLit vs := (walk_voc s).2.1
theorem walkObjFields_voc (s : Schema) : ∀ (fs : List (Name × Value)) (e : Snap), InpOk s e →
    (walkObjFields s e fs).flatMap (vocCheck s) = vErrsFields s e.inpLit fs := (walk_voc s).2.2

end Gql
