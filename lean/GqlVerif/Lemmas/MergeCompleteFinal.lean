/-
  Lemmas/MergeCompleteFinal.lean — from the specification's FieldsInSetCanMerge to the rule:
  a failing unrolling of FieldsInSetCanMerge gives a sized witness between two fields some
  visited selection set collects (`target_of_violated`); every sized witness can be made canonical
  or moved into a fragment's own selection set (`noBad`), where the silent run of the rule has
  excluded it (`silent_topOK`).  Hence: on a document without fragment cycles the rule reports
  whenever FieldsInSetCanMerge fails (`merge_complete`).
-/
import GqlVerif.Lemmas.MergeCompleteTop
namespace Gql
open Gql.Spec

def ShapeBadN (s : Schema) (d : Document) : Nat → AstAndDef → AstAndDef → Prop
  | 0, a, b => typesAgree s a b = false
  | k + 1, a, b => typesAgree s a b = false ∨
      ∃ x y, MemSub s d a x ∧ MemSub s d b y ∧ keyOf x = keyOf y ∧ ShapeBadN s d k x y

def localBad (a b : AstAndDef) : Prop :=
  (a.field.name == b.field.name) = false ∨ identicalArguments a.field.args b.field.args = false ∨
    identicalArguments b.field.args a.field.args = false

def PairBadN (s : Schema) (d : Document) : Nat → AstAndDef → AstAndDef → Prop
  | 0, a, b => ShapeBadN s d 0 a b ∨ (parentsMayCoincide a b = true ∧ localBad a b)
  | k + 1, a, b => ShapeBadN s d (k + 1) a b ∨ (parentsMayCoincide a b = true ∧
      (localBad a b ∨ ∃ x y, MemSub s d a x ∧ MemSub s d b y ∧ keyOf x = keyOf y ∧ PairBadN s d k x y))

section
variable {s : Schema} {d : Document}

theorem ShapeBadN.cases : ∀ {k : Nat} {a b : AstAndDef}, ShapeBadN s d k a b → typesAgree s a b = false ∨
    ∃ j x y, k = j + 1 ∧ MemSub s d a x ∧ MemSub s d b y ∧ keyOf x = keyOf y ∧ ShapeBadN s d j x y
  | 0, _, _, h => Or.inl h
  | j + 1, _, _, h => h.imp id fun ⟨x, y, h⟩ => ⟨j, x, y, rfl, h⟩

theorem PairBadN.cases : ∀ {k : Nat} {a b : AstAndDef}, PairBadN s d k a b → ShapeBadN s d k a b ∨
    (parentsMayCoincide a b = true ∧
      (localBad a b ∨ ∃ j x y, k = j + 1 ∧ MemSub s d a x ∧ MemSub s d b y ∧ keyOf x = keyOf y ∧ PairBadN s d j x y))
  | 0, _, _, h => h.imp id fun ⟨hp, hl⟩ => ⟨hp, Or.inl hl⟩
  | j + 1, _, _, h => h.imp id fun ⟨hp, h⟩ => ⟨hp, h.imp id fun ⟨x, y, h⟩ => ⟨j, x, y, rfl, h⟩⟩

theorem PairBadN.of_shape : ∀ {k : Nat} {a b : AstAndDef}, ShapeBadN s d k a b → PairBadN s d k a b
  | 0, _, _, h => Or.inl h
  | _ + 1, _, _, h => Or.inl h

theorem ShapeBadN.symm {k : Nat} {a b : AstAndDef} (h : ShapeBadN s d k a b) : ShapeBadN s d k b a := by
  induction k generalizing a b with
  | zero => exact (typesAgree_comm s b a).trans h
  | succ k ih =>
    exact h.imp (typesAgree_comm s b a).trans fun ⟨x, y, hx, hy, hk, hw⟩ => ⟨y, x, hy, hx, hk.symm, ih hw⟩

theorem localBad_symm {a b : AstAndDef} (h : localBad a b) : localBad b a := by
  rcases h with h | h | h
  · exact Or.inl ((Bool.beq_comm).trans h)
  · exact Or.inr (Or.inr h)
  · exact Or.inr (Or.inl h)

theorem PairBadN.symm {k : Nat} {a b : AstAndDef} (h : PairBadN s d k a b) : PairBadN s d k b a := by
  have hp : ∀ {a b : AstAndDef}, parentsMayCoincide a b = true → parentsMayCoincide b a = true :=
    fun {a b} => (parentsMayCoincide_comm b a).trans
  induction k generalizing a b with
  | zero => exact h.imp ShapeBadN.symm fun ⟨hc, hl⟩ => ⟨hp hc, localBad_symm hl⟩
  | succ k ih =>
    exact h.imp ShapeBadN.symm fun ⟨hc, h⟩ =>
      ⟨hp hc, h.imp localBad_symm fun ⟨x, y, hx, hy, hk, hw⟩ => ⟨y, x, hy, hx, hk.symm, ih hw⟩⟩

end

/-- a visited selection set with two same-key collected fields and a witness of size `k` between them -/
def TargetN (s : Schema) (d : Document) (k : Nat) : Prop :=
  ∃ parent sel, Reg s d parent sel ∧ ∃ x y, Mem s d parent sel x ∧ Mem s d parent sel y ∧ keyOf x = keyOf y ∧ PairBadN s d k x y

theorem allPairs_false_exists (p : AstAndDef → AstAndDef → Bool) (L : List AstAndDef) (h : allPairs p L = false) :
    ∃ a b, a ∈ L ∧ b ∈ L ∧ keyOf a = keyOf b ∧ p a b = false := by
  refine Classical.byContradiction fun hne => Bool.false_ne_true (h.symm.trans ((allPairs_iff p L).2 ?_))
  exact List.pairwise_of_forall_mem_list fun a ha b hb hk => Bool.of_not_eq_false fun hp => hne ⟨a, b, ha, hb, hk, hp⟩

/-- the own selection set of the field is visited on the type the spec collects it on -/
def RegS (s : Schema) (d : Document) (a : AstAndDef) : Prop := Reg s d (subParent s a) a.field.sel

section
variable {s : Schema} {d : Document} {sf : Nat} {a b x y : AstAndDef} (ra : RegS s d a) (rb : RegS s d b)
  (hx : x ∈ subFields s d sf a ++ subFields s d sf b)
include ra rb hx

theorem regS_sub (hq : s.queryType.isSome = true) (htc : TcKnown s d) : RegS s d x :=
  (List.mem_append.1 hx).elim (fun h => (reg_sub s d hq htc _ _ ra x ⟨sf, h⟩).1) fun h => (reg_sub s d hq htc _ _ rb x ⟨sf, h⟩).1

/-- a symmetric witness between two of the sub-fields of `a` and `b` is one between a sub-field of `a` and one of `b`,
    unless both come from the same field: then that field's own selection set is a target -/
theorem sub_sides {W : AstAndDef → AstAndDef → Prop} {k : Nat} (hsymm : ∀ {x y}, W x y → W y x)
    (hpair : ∀ {x y}, W x y → PairBadN s d k x y) (hy : y ∈ subFields s d sf a ++ subFields s d sf b)
    (hk : keyOf x = keyOf y) (hw : W x y) :
    (∃ x y, MemSub s d a x ∧ MemSub s d b y ∧ keyOf x = keyOf y ∧ W x y) ∨ TargetN s d k := by
  rcases List.mem_append.1 hx with hx | hx
  · rcases List.mem_append.1 hy with hy | hy
    · exact Or.inr ⟨_, _, ra, x, y, ⟨sf, hx⟩, ⟨sf, hy⟩, hk, hpair hw⟩
    · exact Or.inl ⟨x, y, ⟨sf, hx⟩, ⟨sf, hy⟩, hk, hw⟩
  · rcases List.mem_append.1 hy with hy | hy
    · exact Or.inl ⟨y, x, ⟨sf, hy⟩, ⟨sf, hx⟩, hk.symm, hsymm hw⟩
    · exact Or.inr ⟨_, _, rb, x, y, ⟨sf, hx⟩, ⟨sf, hy⟩, hk, hpair hw⟩

end

theorem shape_witness (s : Schema) (d : Document) (hq : s.queryType.isSome = true) (htc : TcKnown s d) (sf : Nat) :
    ∀ (n : Nat) (a b : AstAndDef), RegS s d a → RegS s d b → sameResponseShape s d sf n a b = false →
      (∃ k, ShapeBadN s d k a b) ∨ ∃ k, TargetN s d k
  | 0, a, b, _, _, h => by cases h
  | n + 1, a, b, ra, rb, h => by
      rcases (srs_false_iff s d sf n a b).1 h with h | h
      · exact Or.inl ⟨0, h⟩
      · obtain ⟨x, y, hx, hy, hk, hp⟩ := allPairs_false_exists _ _ h
        rcases shape_witness s d hq htc sf n x y (regS_sub ra rb hx hq htc) (regS_sub ra rb hy hq htc) hp with ⟨k, hw⟩ | ht
        · exact (sub_sides ra rb hx ShapeBadN.symm PairBadN.of_shape hy hk hw).imp (fun h => ⟨k + 1, Or.inr h⟩) fun h => ⟨k, h⟩
        · exact Or.inr ht

theorem merge_witness (s : Schema) (d : Document) (hq : s.queryType.isSome = true) (htc : TcKnown s d) (sf : Nat) :
    ∀ (n : Nat) (L : List AstAndDef), (∀ z ∈ L, RegS s d z) → fieldsInSetCanMerge s d sf n L = false →
      (∃ x y, x ∈ L ∧ y ∈ L ∧ keyOf x = keyOf y ∧ ∃ k, PairBadN s d k x y) ∨ ∃ k, TargetN s d k
  | 0, L, _, h => by cases h
  | n + 1, L, hL, h => by
      obtain ⟨a, b, ha, hb, hk, hp⟩ := allPairs_false_exists _ _ h
      have ra := hL a ha
      have rb := hL b hb
      have found : (∃ k, PairBadN s d k a b) ∨ ∃ k, TargetN s d k := by
        rcases (pairOk_false_iff s d sf n a b).1 hp with hp | ⟨hc, hp | hp | hp⟩
        · exact (shape_witness s d hq htc sf n a b ra rb hp).imp (fun ⟨k, hw⟩ => ⟨k, .of_shape hw⟩) id
        · exact Or.inl ⟨0, Or.inr ⟨hc, Or.inl hp⟩⟩
        · exact Or.inl ⟨0, Or.inr ⟨hc, Or.inr (Or.inl hp)⟩⟩
        · rcases merge_witness s d hq htc sf n _ (fun z hz => regS_sub ra rb hz hq htc) hp with ⟨x, y, hx, hy, hkk, k, hw⟩ | ht
          · exact (sub_sides ra rb hx PairBadN.symm id hy hkk hw).imp (fun h => ⟨k + 1, Or.inr ⟨hc, Or.inr h⟩⟩) fun h => ⟨k, h⟩
          · exact Or.inr ht
      exact found.imp (fun h => ⟨a, b, ha, hb, hk, h⟩) id

theorem target_of_violated (s : Schema) (d : Document) (hq : s.queryType.isSome = true) (htc : TcKnown s d)
    (h : MergeViolated s d) : ∃ k, TargetN s d k := by
  obtain ⟨sel, env, hm, hf⟩ := h
  have hr : Reg s d env.parent sel := ⟨env, hm, rfl⟩
  have hL : ∀ z ∈ specFields s d (spreadFuelOf d) env.parent sel, RegS s d z :=
    fun z hz => (reg_sub s d hq htc _ _ hr z ⟨_, hz⟩).1
  rcases merge_witness s d hq htc _ _ _ hL hf with ⟨x, y, hx, hy, hk, k, hw⟩ | ht
  · exact ⟨k, _, _, hr, x, y, ⟨_, hx⟩, ⟨_, hy⟩, hk, hw⟩
  · exact ht

def NoBad (s : Schema) (d : Document) (k : Nat) : Prop := ¬ TargetN s d k

/-- two fields one fragment contributes, with a witness between them, are a target: the fragment's own selection set is visited -/
theorem NoBad.not_shared {s : Schema} {d : Document} (hq : s.queryType.isSome = true) {k : Nat} {x y : AstAndDef}
    (hnb : NoBad s d k) (hk : keyOf x = keyOf y) (hw : PairBadN s d k x y) : ¬ Shared s d x y := by
  rintro ⟨F, hx, hy⟩
  obtain ⟨fr, hfr, _⟩ := memFrag_decomp s d F x hx
  exact hnb ⟨_, _, reg_fragment s d hq F fr hfr, x, y, (memFrag_iff_mem s d F fr hfr x).1 hx,
    (memFrag_iff_mem s d F fr hfr y).1 hy, hk, hw⟩

theorem canon_shape (s : Schema) (d : Document) (hq : s.queryType.isSome = true) (K : Nat) (hnb : ∀ j, j < K → NoBad s d j) :
    ∀ (k : Nat), k ≤ K → ∀ a b, ShapeBadN s d k a b → ShapeBadC s d a b
  | 0, _, _, _, h => .types h
  | k + 1, hk, _, _, h => by
      rcases h with h | ⟨x, y, hx, hy, hkk, hw⟩
      · exact .types h
      · exact .nested hx hy hkk ((hnb k hk).not_shared hq hkk (.of_shape hw)) (canon_shape s d hq K hnb k (Nat.le_of_succ_le hk) x y hw)

theorem canon_pair (s : Schema) (d : Document) (hq : s.queryType.isSome = true) (htc : TcKnown s d) (hu : ArgsUniq s d)
    (K : Nat) (hnb : ∀ j, j < K → NoBad s d j) :
    ∀ (k : Nat), k ≤ K → ∀ a b, RegF s d a → RegF s d b → PairBadN s d k a b → PairBadC s d a b := by
  intro k
  induction k using Nat.strongRecOn with
  | _ k ih =>
    intro hk a b ra rb h
    rcases h.cases with h | ⟨hp, (h | h) | ⟨j, x, y, rfl, hx, hy, hkk, hw⟩⟩
    · exact .shape (canon_shape s d hq K hnb k hk a b h)
    · exact .name hp h
    · exact .args hp ra.2 rb.2 (identicalArguments_false_symm _ _ ra.2 rb.2 h)
    · exact .nested hp hx hy hkk ((hnb j hk).not_shared hq hkk hw)
        (ih j (Nat.lt_succ_self j) (Nat.le_of_succ_le hk) x y (regF_sub s d hq htc hu ra hx) (regF_sub s d hq htc hu rb hy) hw)

/-- a field is never in conflict with itself, beyond conflicts inside its own selection set -/
theorem self_pair (s : Schema) (d : Document) (x : AstAndDef) (hx : RegF s d x) (k : Nat) (h : PairBadN s d k x x) :
    ∃ j, j < k ∧ TargetN s d j := by
  rcases h.cases with h | ⟨_, h | ⟨j, a, b, rfl, ha, hb, hk, hw⟩⟩
  · rcases h.cases with h | ⟨j, a, b, rfl, ha, hb, hk, hw⟩
    · rw [typesAgree_refl] at h; cases h
    · exact ⟨j, Nat.lt_succ_self j, _, _, hx.1, a, b, ha, hb, hk, .of_shape hw⟩
  · rcases h with h | h | h
    · simp at h
    · rw [identicalArguments_refl _ hx.2] at h; cases h
    · rw [identicalArguments_refl _ hx.2] at h; cases h
  · exact ⟨j, Nat.lt_succ_self j, _, _, hx.1, a, b, ha, hb, hk, hw⟩

/-- **no witness of any size survives** a run of the rule that reports nothing -/
theorem noBad (s : Schema) (d : Document) (hq : s.queryType.isSome = true) (htc : TcKnown s d) (hu : ArgsUniq s d)
    (hac : ¬ FragmentCycle d) (htop : ∀ parent sel, Reg s d parent sel → TopOK s d parent sel) : ∀ k, NoBad s d k := by
  intro k
  induction k using Nat.strongRecOn with
  | _ k ihk =>
    -- inner induction on the rank of the selection set: a pair that the visit left to a fragment is met again,
    -- with the same witness, in that fragment's own selection set, of smaller rank
    have inner : ∀ (r : Nat) parent sel, Rs d sel < r → Reg s d parent sel → ∀ x y, Mem s d parent sel x → Mem s d parent sel y →
        keyOf x = keyOf y → ¬ PairBadN s d k x y := by
      intro r
      induction r with
      | zero => intro _ _ hr; exact absurd hr (Nat.not_lt_zero _)
      | succ r ihr =>
        intro parent sel hr hreg x y mx my hk hw
        have rx := regF_of_mem s d hq htc hu _ _ hreg x mx
        have ry := regF_of_mem s d hq htc hu _ _ hreg y my
        by_cases hxy : x = y
        · subst hxy
          obtain ⟨j, hj, ht⟩ := self_pair s d x rx k hw
          exact ihk j hj ht
        · rcases htop _ _ hreg x y mx my hk hxy with ⟨F, hF, fx, fy⟩ | h
          · obtain ⟨fr, hfr, _⟩ := memFrag_decomp s d F x fx
            rw [Dr_some d hac F fr hfr] at hF
            exact ihr _ _ (Nat.lt_of_lt_of_le hF (Nat.le_of_lt_succ hr)) (reg_fragment s d hq F fr hfr) x y
              ((memFrag_iff_mem s d F fr hfr x).1 fx) ((memFrag_iff_mem s d F fr hfr y).1 fy) hk hw
          · exact h (canon_pair s d hq htc hu k ihk k (Nat.le_refl _) x y rx ry hw)
    rintro ⟨parent, sel, hreg, x, y, mx, my, hk, hw⟩
    exact inner _ parent sel (Nat.lt_succ_self _) hreg x y mx my hk hw

/-- **completeness of the field-merging rule**: on a document without fragment cycles, whenever
    FieldsInSetCanMerge fails for some selection set of the document, the rule reports -/
theorem merge_complete (s : Schema) (d : Document) (hq : s.queryType.isSome = true) (htc : TcKnown s d) (hu : ArgsUniq s d)
    (hac : ¬ FragmentCycle d) (h : MergeViolated s d) : fires .overlappingFieldsCanBeMerged s d := by
  apply Classical.byContradiction
  intro hnf
  obtain ⟨k, ht⟩ := target_of_violated s d hq htc h
  exact noBad s d hq htc hu hac (silent_topOK s d hq hac hnf) k ht

end Gql
