/-
  Lemmas/Traverse.lean — forgetting the environment, `walk*` is the plain pre/post-order
  traversal `traverse*`, whatever the schema and the environment.  First the induction principles
  for the nested types `Selection` and `Value` (`sels_induction`, `values_induction`), which the
  later files use for every simultaneous recursion over a tree and its lists of children.
-/
import GqlVerif.Spec.Walk
namespace Gql

theorem sels_induction {P : Selection → Prop} {Q : List Selection → Prop}
    (field : ∀ pos alias name args dirs sel, Q sel → P (.field pos alias name args dirs sel))
    (spread : ∀ pos name dirs, P (.spread pos name dirs))
    (inline : ∀ pos tc dirs sel, Q sel → P (.inline pos tc dirs sel))
    (nil : Q []) (cons : ∀ x xs, P x → Q xs → Q (x :: xs)) : (∀ x, P x) ∧ ∀ xs, Q xs :=
  ⟨fun x => Selection.rec (motive_1 := P) (motive_2 := Q) field spread inline nil cons x,
    fun xs => Selection.rec_1 (motive_1 := P) (motive_2 := Q) field spread inline nil cons xs⟩

theorem values_induction {P : Value → Prop} {Q : List Value → Prop} {R : List (Name × Value) → Prop}
    (var : ∀ n, P (.var n)) (int : ∀ i, P (.int i)) (float : ∀ i, P (.float i)) (str : ∀ i, P (.str i))
    (bool : ∀ b, P (.bool b)) (null : P .null) (enum : ∀ n, P (.enum n))
    (list : ∀ vs, Q vs → P (.list vs)) (obj : ∀ fs, R fs → P (.obj fs))
    (nil : Q []) (cons : ∀ v vs, P v → Q vs → Q (v :: vs))
    (fnil : R []) (fcons : ∀ k v fs, P v → R fs → R ((k, v) :: fs)) : (∀ v, P v) ∧ (∀ vs, Q vs) ∧ ∀ fs, R fs :=
  ⟨fun v => Value.rec (motive_1 := P) (motive_2 := Q) (motive_3 := R) (motive_4 := fun p => P p.2)
      var int float str bool null enum list obj nil cons fnil (fun p fs hp hfs => fcons p.1 p.2 fs hp hfs) (fun _ _ h => h) v,
   fun vs => Value.rec_1 (motive_1 := P) (motive_2 := Q) (motive_3 := R) (motive_4 := fun p => P p.2)
      var int float str bool null enum list obj nil cons fnil (fun p fs hp hfs => fcons p.1 p.2 fs hp hfs) (fun _ _ h => h) vs,
   fun fs => Value.rec_2 (motive_1 := P) (motive_2 := Q) (motive_3 := R) (motive_4 := fun p => P p.2)
      var int float str bool null enum list obj nil cons fnil (fun p fs hp hfs => fcons p.1 p.2 fs hp hfs) (fun _ _ h => h) fs⟩

theorem traverseValues_eq_flatMap (vs : List Value) : traverseValues vs = vs.flatMap traverseValue := by
  induction vs with
  | nil => simp only [traverseValues, List.flatMap_nil]
  | cons v vs ih => simp only [traverseValues, List.flatMap_cons, ih]

theorem traverseArguments_eq_flatMap (as : List Arg) : traverseArguments as =
    as.flatMap fun a => .enter (.argument a) :: traverseValue a.2 ++ [.leave (.argument a)] := by
  induction as with
  | nil => simp only [traverseArguments, List.flatMap_nil]
  | cons a as ih => simp only [traverseArguments, List.flatMap_cons, ih]

theorem traverseDirectives_eq_flatMap (ds : List Directive) : traverseDirectives ds =
    ds.flatMap fun d => .enter (.directive d) :: traverseArguments d.args ++ [.leave (.directive d)] := by
  induction ds with
  | nil => simp only [traverseDirectives, List.flatMap_nil]
  | cons d ds ih => simp only [traverseDirectives, List.flatMap_cons, ih]

theorem traverseVarDefs_eq_flatMap (vs : List VarDef) : traverseVarDefs vs =
    vs.flatMap fun v => .enter (.varDef v) :: (match v.default with | some dv => traverseValue dv | none => [])
      ++ [.leave (.varDef v)] := by
  induction vs with
  | nil => simp only [traverseVarDefs, List.flatMap_nil]
  | cons v vs ih => simp only [traverseVarDefs, List.flatMap_cons, ih]; rfl

theorem traverseSelections_eq_flatMap (xs : List Selection) :
    traverseSelections xs = xs.flatMap traverseSelection := by
  induction xs with
  | nil => simp only [traverseSelections, List.flatMap_nil]
  | cons x xs ih => simp only [traverseSelections, List.flatMap_cons, ih]

theorem traverseDefinitions_eq_flatMap (ds : List Definition) :
    traverseDefinitions ds = ds.flatMap traverseDefinition := by
  induction ds with
  | nil => simp only [traverseDefinitions, List.flatMap_nil]
  | cons d ds ih => simp only [traverseDefinitions, List.flatMap_cons, ih]

/-! `t.map Prod.fst = l` ("the events of `t` are `l`") passes to concatenations and to a node's two
callbacks around its inside, which is how every walker is built. -/

theorem events_append {a b : Trace} {la lb : List Ev} (ha : a.map Prod.fst = la) (hb : b.map Prod.fst = lb) :
    (a ++ b).map Prod.fst = la ++ lb := by
  rw [List.map_append, ha, hb]

theorem events_bracket {n : Node} {e : Snap} {t : Trace} {l : List Ev} (h : t.map Prod.fst = l) :
    ((Ev.enter n, e) :: t ++ [(Ev.leave n, e)]).map Prod.fst = Ev.enter n :: l ++ [Ev.leave n] := by
  rw [← h, List.map_append]
  rfl

theorem walkValue_values_objFields_events (s : Schema) :
    (∀ v e, (walkValue s e v).map Prod.fst = traverseValue v) ∧
      (∀ vs e, (walkValues s e vs).map Prod.fst = traverseValues vs) ∧
      ∀ fs e, (walkObjFields s e fs).map Prod.fst = traverseObjFields fs :=
  values_induction (fun _ _ => rfl) (fun _ _ => rfl) (fun _ _ => rfl) (fun _ _ => rfl) (fun _ _ => rfl)
    (fun _ => rfl) (fun _ _ => rfl)
    (fun _ ih _ => events_bracket (ih _)) (fun _ ih e => events_bracket (ih e))
    (fun _ => rfl) (fun _ _ hv hvs e => events_append (hv e) (hvs e))
    (fun _ => rfl) (fun _ _ _ hv hfs e => events_append (events_bracket (hv _)) (hfs e))

theorem walkValue_events (s : Schema) (e : Snap) : ∀ v, (walkValue s e v).map Prod.fst = traverseValue v :=
  fun v => (walkValue_values_objFields_events s).1 v e
theorem walkValues_events (s : Schema) (e : Snap) :
    ∀ vs, (walkValues s e vs).map Prod.fst = traverseValues vs :=
  fun vs => (walkValue_values_objFields_events s).2.1 vs e
theorem walkObjFields_events (s : Schema) (e : Snap) :
    ∀ fs, (walkObjFields s e fs).map Prod.fst = traverseObjFields fs :=
  fun fs => (walkValue_values_objFields_events s).2.2 fs e

theorem walkArguments_events (s : Schema) (defs : Option (List InputValueDef)) (e : Snap) :
    ∀ as, (walkArguments s defs e as).map Prod.fst = traverseArguments as
  | [] => rfl
  | a :: as => events_append (events_bracket (walkValue_events s _ a.2)) (walkArguments_events s defs e as)

theorem walkDirectives_events (s : Schema) (e : Snap) :
    ∀ ds, (walkDirectives s e ds).map Prod.fst = traverseDirectives ds
  | [] => rfl
  | d :: ds => events_append (events_bracket (walkArguments_events s _ e d.args)) (walkDirectives_events s e ds)

theorem walkVarDefs_events (s : Schema) (e : Snap) :
    ∀ vs, (walkVarDefs s e vs).map Prod.fst = traverseVarDefs vs
  | [] => rfl
  | v :: vs => by
      refine events_append (events_bracket ?_) (walkVarDefs_events s e vs)
      cases v.default with
      | none => rfl
      | some dv => exact walkValue_events s _ dv

theorem walkSelection_selections_events (s : Schema) :
    (∀ x e, (walkSelection s e x).map Prod.fst = traverseSelection x) ∧
      ∀ xs e, (walkSelections s e xs).map Prod.fst = traverseSelections xs :=
  sels_induction
    (fun _ _ _ args dirs _ ih _ => events_bracket (events_append
      (events_append (walkArguments_events s _ _ args) (walkDirectives_events s _ dirs))
      (events_bracket (ih _))))
    (fun _ _ dirs e => events_bracket (walkDirectives_events s e dirs))
    (fun _ _ dirs _ ih _ => events_bracket (events_append (walkDirectives_events s _ dirs)
      (events_bracket (ih _))))
    (fun _ => rfl) (fun _ _ hx hxs e => events_append (hx e) (hxs e))

theorem walkSelection_events (s : Schema) (e : Snap) :
    ∀ x, (walkSelection s e x).map Prod.fst = traverseSelection x :=
  fun x => (walkSelection_selections_events s).1 x e
theorem walkSelections_events (s : Schema) (e : Snap) :
    ∀ xs, (walkSelections s e xs).map Prod.fst = traverseSelections xs :=
  fun xs => (walkSelection_selections_events s).2 xs e

theorem walkSelectionSet_events (s : Schema) (e : Snap) (sel : List Selection) :
    (walkSelectionSet s e sel).map Prod.fst = traverseSelectionSet sel :=
  events_bracket (walkSelections_events s _ sel)

theorem walkDefinition_events (s : Schema) (e : Snap) (d : Definition) (t : Trace)
    (h : walkDefinition s e d = some t) : t.map Prod.fst = traverseDefinition d := by
  cases d with
  | frag f =>
    cases h
    exact events_bracket (events_append (walkDirectives_events s _ f.dirs) (walkSelectionSet_events s _ f.sel))
  | op o =>
    obtain ⟨tn, _, rfl⟩ := Option.map_eq_some_iff.1 h
    exact events_bracket (events_append (events_append (walkDirectives_events s _ o.dirs)
      (walkVarDefs_events s _ o.vars)) (walkSelectionSet_events s _ o.sel))

theorem walkDefinitions_cons (s : Schema) (e : Snap) (x : Definition) (ds : List Definition) :
    walkDefinitions s e (x :: ds) = (walkDefinition s e x).bind fun a => (walkDefinitions s e ds).map (a ++ ·) := by
  rw [walkDefinitions]
  cases walkDefinition s e x <;> cases walkDefinitions s e ds <;> rfl

theorem walkDefinitions_cons_eq_some {s : Schema} {e : Snap} {x : Definition} {ds : List Definition} {t : Trace} :
    walkDefinitions s e (x :: ds) = some t ↔
      ∃ a b, walkDefinition s e x = some a ∧ walkDefinitions s e ds = some b ∧ t = a ++ b := by
  rw [walkDefinitions_cons, Option.bind_eq_some_iff]
  exact exists_congr fun a => by rw [Option.map_eq_some_iff, exists_and_left]; simp only [eq_comm]

theorem walkDefinitions_events (s : Schema) (e : Snap) :
    ∀ ds t, walkDefinitions s e ds = some t → t.map Prod.fst = traverseDefinitions ds
  | [], t, h => by cases h; rfl
  | d :: ds, t, h => by
      obtain ⟨a, b, ha, hb, rfl⟩ := walkDefinitions_cons_eq_some.1 h
      exact events_append (walkDefinition_events s e d a ha) (walkDefinitions_events s e ds b hb)

theorem walkDocument_events (s : Schema) (e : Snap) (d : Document) (t : Trace)
    (h : walkDocument s e d = some t) : t.map Prod.fst = traverseDocument d := by
  obtain ⟨a, ha, rfl⟩ := Option.map_eq_some_iff.1 h
  exact events_bracket (walkDefinitions_events s e d a ha)

end Gql
