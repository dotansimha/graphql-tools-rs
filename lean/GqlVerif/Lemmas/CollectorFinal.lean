/-
  Lemmas/CollectorFinal.lean — a `collRule` reports on the state collected from the whole
  document; what that state says about each operation, in terms of the spec's notions.
-/
import GqlVerif.Lemmas.Collector
import GqlVerif.Lemmas.RuleFold
import GqlVerif.Spec.Variables
namespace Gql
open Gql.Spec

section
variable {ι : Type} (itemsOf : Ev × Snap → List ι)

/-- the collected state after all definitions -/
def finalColl (s : Schema) (d : Document) : Coll ι := (d.flatMap (defTrace s)).foldl (Coll.on itemsOf) {}

theorem defTrace_no_leaveDoc (s : Schema) (x : Definition) (h : (walkDefinition s Snap.empty x).isSome = true) :
    ∀ e ∈ defTrace s x, ∀ d', e.1 ≠ .leave (.document d') := by
  obtain ⟨e1, body, hshape, hbody⟩ := defTrace_shape s x h
  intro e he d' heq
  rw [hshape] at he
  simp only [List.mem_cons, List.mem_append, List.not_mem_nil, or_false] at he
  rcases he with (rfl | he) | rfl
  · cases x <;> cases heq
  · have hin : Inner (body.map Prod.fst) := by rw [hbody]; exact inner_body x
    have := hin e.1 (List.mem_map.2 ⟨e, he, rfl⟩)
    rw [heq] at this
    cases this
  · cases x <;> cases heq

theorem collRule_on (report : Schema → Coll ι → List Err) (s : Schema) (d : Document) (st : Coll ι) (e : Ev × Snap)
    (he : ∀ d', e.1 ≠ .leave (.document d')) : (collRule itemsOf report).on s d st e = (st.on itemsOf e, []) := by
  -- the default branch of the rule's `match`; `simp` discharges its side condition with `he`
  simp only [collRule]

theorem collRule_fold (report : Schema → Coll ι → List Err) (s : Schema) (d : Document) (tr : Trace) :
    ∀ acc : Coll ι × List Err, (∀ e ∈ tr, ∀ d', e.1 ≠ .leave (.document d')) →
      tr.foldl (stepOf (σ := Coll ι) ((collRule itemsOf report).on s d)) acc = (tr.foldl (Coll.on itemsOf) acc.1, acc.2) := by
  induction tr with
  | nil => exact fun _ _ => rfl
  | cons e tr ih =>
    intro acc h
    rw [List.foldl_cons, ih _ fun x hx => h x (List.mem_cons_of_mem _ hx)]
    simp only [stepOf, collRule_on itemsOf report s d acc.1 e (h e List.mem_cons_self), List.append_nil,
      List.foldl_cons]

/-- a collecting rule reports exactly `report` of the state collected from the definitions -/
theorem collRule_run (report : Schema → Coll ι → List Err) (s : Schema) (d : Document)
    (hq : s.queryType.isSome = true) :
    (collRule itemsOf report).runOn s d (walkOf s d) = report s (finalColl itemsOf s d) := by
  obtain ⟨hw, hall⟩ := walkOf_defs s d hq
  have hquiet : ∀ e ∈ (Ev.enter (.document d), Snap.empty) :: d.flatMap (defTrace s), ∀ d', e.1 ≠ .leave (.document d') := by
    intro e he
    rcases List.mem_cons.1 he with rfl | he
    · intro d' h; cases h
    · obtain ⟨x, hx, hex⟩ := List.mem_flatMap.1 he
      exact defTrace_no_leaveDoc s x (hall x hx) e hex
  show (List.foldl (stepOf (σ := Coll ι) ((collRule itemsOf report).on s d)) ({}, []) (walkOf s d)).2 ++ [] = _
  rw [hw, List.append_nil, List.foldl_append, collRule_fold itemsOf report s d _ _ hquiet]
  -- entering the document leaves the empty state as it is, leaving it reports on the state reached
  rfl

/-- item `x` belongs to operation `o`: met in the operation or in a fragment in its scope -/
def ItemOf (s : Schema) (d : Document) (o : Operation) (x : ι) : Prop :=
  x ∈ defItems itemsOf s (.op o) ∨ ∃ f ∈ d.fragments, InScope d o f.name ∧ x ∈ defItems itemsOf s (.frag f)

theorem finalColl_facts (hok : ItemsOk itemsOf) (s : Schema) (d : Document) (hq : s.queryType.isSome = true) :
    (finalColl itemsOf s d).defs = indexedDefs 0 d ∧
    (∀ k, lookup (finalColl itemsOf s d).spreads k = contrib (defSpreads s) 0 d k) ∧
    (∀ k, lookup (finalColl itemsOf s d).items k = contrib (defItems itemsOf s) 0 d k) := by
  obtain ⟨_, hall⟩ := walkOf_defs s d hq
  obtain ⟨a, b, c⟩ := docPost itemsOf hok s d {} hall (fun p hp => by cases hp)
  exact ⟨a, fun k => (b k).trans (contribS_eq s 0 d k), fun k => (c k).trans (contribI_eq itemsOf s 0 d k)⟩

theorem frag_edges_eq (hok : ItemsOk itemsOf) (s : Schema) (d : Document) (hq : s.queryType.isSome = true) :
    (fun k => lookup (finalColl itemsOf s d).spreads (.frag k)) = spreadsOf d := by
  obtain ⟨_, hall⟩ := walkOf_defs s d hq
  obtain ⟨_, hsp, _⟩ := finalColl_facts itemsOf hok s d hq
  funext k
  rw [hsp, contrib_frag]
  unfold spreadsOf
  rw [List.flatMap_def, List.flatMap_def]
  exact congrArg List.flatten (List.map_congr_left fun f hf =>
    defSpreads_eq s (.frag f) (hall _ ((mem_fragments_iff d f).1 (List.mem_filter.1 hf).1)))

/-- reading one entry of the table whose scope received the contributions of operation `o` -/
theorem entry_read (hok : ItemsOk itemsOf) (s : Schema) (d : Document) (hq : s.queryType.isSome = true)
    (o : Operation) (ho : Definition.op o ∈ d) (i : Nat)
    (h4 : ∀ {β : Type} (f : Definition → List β), contrib f 0 d (.op i o.name) = f (.op o)) (x : ι) :
    x ∈ (finalColl itemsOf s d).itemsFrom (i, o.name) ↔ ItemOf itemsOf s d o x := by
  obtain ⟨_, hall⟩ := walkOf_defs s d hq
  obtain ⟨_, hsp, hit⟩ := finalColl_facts itemsOf hok s d hq
  rw [mem_itemsFrom, frag_edges_eq itemsOf hok s d hq, hit, hsp, h4, h4, defSpreads_eq s (.op o) (hall _ ho)]
  unfold ItemOf InScope
  have hfrag : ∀ k, x ∈ lookup (finalColl itemsOf s d).items (.frag k) ↔
      ∃ f ∈ d.fragments, f.name = k ∧ x ∈ defItems itemsOf s (.frag f) := fun k => by
    rw [hit, contrib_frag]
    simp only [List.mem_flatMap, List.mem_filter, beq_iff_eq, and_assoc]
  simp only [hfrag, List.mem_map]
  constructor
  · rintro (h | ⟨_, ⟨sp, hsp', rfl⟩, _, hr, f, hfm, rfl, hxf⟩)
    · exact Or.inl h
    · exact Or.inr ⟨f, hfm, ⟨sp, hsp', hr⟩, hxf⟩
  · rintro (h | ⟨f, hfm, ⟨sp, hsp', hr⟩, hxf⟩)
    · exact Or.inl h
    · exact Or.inr ⟨_, ⟨sp, hsp', rfl⟩, _, hr, f, hfm, rfl, hxf⟩

/-- the items the rule gathers for an entry of its per-operation table are the items of that operation -/
theorem entry_items (hok : ItemsOk itemsOf) (s : Schema) (d : Document) (hq : s.queryType.isSome = true)
    (p : (Nat × Option Name) × List VarDef) (hp : p ∈ (finalColl itemsOf s d).defs) :
    ∃ o ∈ d.operations, p.2 = o.vars ∧ ∀ x, x ∈ (finalColl itemsOf s d).itemsFrom p.1 ↔ ItemOf itemsOf s d o x := by
  rw [(finalColl_facts itemsOf hok s d hq).1] at hp
  obtain ⟨⟨i, n⟩, vs⟩ := p
  obtain ⟨o, ho, rfl, h2, _, h4⟩ := indexed_mem 0 d _ hp
  exact ⟨o, (mem_operations_iff d o).2 ho, h2, entry_read itemsOf hok s d hq o ho i h4⟩

/-- every operation has an entry in the table -/
theorem entry_of_op (hok : ItemsOk itemsOf) (s : Schema) (d : Document) (hq : s.queryType.isSome = true)
    (o : Operation) (ho : o ∈ d.operations) :
    ∃ p ∈ (finalColl itemsOf s d).defs, p.2 = o.vars ∧ ∀ x, x ∈ (finalColl itemsOf s d).itemsFrom p.1 ↔ ItemOf itemsOf s d o x := by
  have ho' := (mem_operations_iff d o).1 ho
  obtain ⟨i, hi, _, h4⟩ := indexed_of_mem o 0 d ho'
  exact ⟨((i, o.name), o.vars), by rw [(finalColl_facts itemsOf hok s d hq).1]; exact hi, rfl,
    entry_read itemsOf hok s d hq o ho' i h4⟩

/-- a collecting rule whose report is made entry by entry of the per-operation table, whose being
    empty depends on the entry's variable definitions and on which items were gathered for it,
    reports iff the corresponding condition holds of some operation -/
theorem collRule_fires_iff (report : Schema → Coll ι → List Err) (hok : ItemsOk itemsOf) (s : Schema) (d : Document)
    (hq : s.queryType.isSome = true)
    (R : (Nat × Option Name) × List VarDef → List ι → List Err) (P : Operation → Prop)
    (hrep : ∀ st, report s st = st.defs.flatMap fun p => R p (st.itemsFrom p.1))
    (hR : ∀ p (its : List ι) o, p.2 = o.vars → (∀ x, x ∈ its ↔ ItemOf itemsOf s d o x) → (R p its ≠ [] ↔ P o)) :
    (collRule itemsOf report).runOn s d (walkOf s d) ≠ [] ↔ ∃ o ∈ d.operations, P o := by
  rw [collRule_run itemsOf report s d hq, hrep, flatMap_ne_nil_iff]
  constructor
  · rintro ⟨p, hp, hne⟩
    obtain ⟨o, ho, hvars, hx⟩ := entry_items itemsOf hok s d hq p hp
    exact ⟨o, ho, (hR p _ o hvars hx).1 hne⟩
  · rintro ⟨o, ho, hP⟩
    obtain ⟨p, hp, hvars, hx⟩ := entry_of_op itemsOf hok s d hq o ho
    exact ⟨p, hp, (hR p _ o hvars hx).2 hP⟩

end
end Gql
