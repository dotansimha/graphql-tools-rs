/-
  Lemmas/FuelAdequate.lean — on documents without fragment cycles the executable spec with its
  own fuel is the fuel-free reading: `MergeViolatedEx s d ↔ MergeViolated s d`.
-/
import GqlVerif.Lemmas.NestFuel
import GqlVerif.Lemmas.MergeFinal
namespace Gql
open Gql.Spec

theorem subFields_stable (s : Schema) (d : Document) (hac : ¬ FragmentCycle d) (sf : Nat) (hsf : spreadFuelOf d ≤ sf) (a : AstAndDef) :
    subFields s d sf a = subFields s d (spreadFuelOf d) a :=
  specFields_stable s d hac _ _ sf hsf

theorem srs_sf_stable (s : Schema) (d : Document) (hac : ¬ FragmentCycle d) (sf : Nat) (hsf : spreadFuelOf d ≤ sf) :
    ∀ (n : Nat) (a b : AstAndDef), sameResponseShape s d sf n a b = sameResponseShape s d (spreadFuelOf d) n a b
  | 0, _, _ => rfl
  | n + 1, a, b => by
      rw [srs_succ, srs_succ, subFields_stable s d hac sf hsf a, subFields_stable s d hac sf hsf b]
      congr 1
      exact allPairs_congr' _ _ _ (fun x _ y _ => srs_sf_stable s d hac sf hsf n x y)

theorem cm_sf_stable (s : Schema) (d : Document) (hac : ¬ FragmentCycle d) (sf : Nat) (hsf : spreadFuelOf d ≤ sf) :
    ∀ (n : Nat) (L : List AstAndDef), fieldsInSetCanMerge s d sf n L = fieldsInSetCanMerge s d (spreadFuelOf d) n L
  | 0, _ => rfl
  | n + 1, L => by
      rw [cm_succ, cm_succ]
      apply allPairs_congr'
      intro a _ b _
      simp only [pairOk]
      rw [srs_sf_stable s d hac sf hsf n a b, subFields_stable s d hac sf hsf a, subFields_stable s d hac sf hsf b,
        cm_sf_stable s d hac sf hsf n]

theorem hL_specFields_lt (s : Schema) (d : Document) (hac : ¬ FragmentCycle d) (sf : Nat) (parent : Option TypeDef)
    (sel : List Selection) (hsel : selsDepth sel ≤ docDepth d) : hL d (specFields s d sf parent sel) < nestFuelOf d := by
  have h1 : hL d (specFields s d sf parent sel) ≤ Hs d sel :=
    hL_le d _ _ (fun a ha' => descent s d hac sf parent sel a ha')
  have h2 := Hs_bound d sel
  unfold nestFuelOf
  have : (docDepth d + 1) * (d.fragments.length + 2) = docDepth d * (d.fragments.length + 2) + (d.fragments.length + 2) :=
    Nat.succ_mul _ _
  have h3 : (d.fragments.length + 1) * docDepth d = docDepth d * (d.fragments.length + 1) := Nat.mul_comm _ _
  have h4 : docDepth d * (d.fragments.length + 2) = docDepth d * (d.fragments.length + 1) + docDepth d := Nat.mul_succ _ _
  omega

/-- **the fuel of the executable spec is adequate**: on a document without fragment cycles, some
    deeper unrolling of FieldsInSetCanMerge fails iff the one with the spec's own fuel does -/
theorem violatedEx_iff_of_acyclic (s : Schema) (d : Document) (hq : s.queryType.isSome = true) (hac : ¬ FragmentCycle d) :
    MergeViolatedEx s d ↔ MergeViolated s d := by
  constructor
  · rintro ⟨sf, nf, hsf, hnf, sel, env, hm, hf⟩
    refine ⟨sel, env, hm, ?_⟩
    have hsel : selsDepth sel ≤ docDepth d := selset_depth_walk s d hm
    rw [specFields_stable s d hac env.parent sel sf hsf, cm_sf_stable s d hac sf hsf] at hf
    have hlt := hL_specFields_lt s d hac (spreadFuelOf d) env.parent sel hsel
    rw [cm_stable s d hac (spreadFuelOf d) _ _ (Nat.le_refl _) (nestFuelOf d) nf hlt (by omega)]
    exact hf
  · exact mergeViolatedEx_of_violated s d

end Gql
