/-
  Lemmas/Positions.lean — the positions of the nodes of a document, and the structural facts
  that put a position a rule reports among them: what lies inside a visited selection set, a
  fragment definition, a collected field.
-/
import GqlVerif.Lemmas.TraverseMem
import GqlVerif.Lemmas.Rules
import GqlVerif.Lemmas.MergeRel
import GqlVerif.Lemmas.TraverseNodes
namespace Gql
open Gql.Spec

/-- the positions of the nodes of the document -/
def docPositions (d : Document) : List Pos := (traverseDocument d).filterMap Ev.pos?

theorem pos_of_enter {d : Document} {n : Node} {p : Pos} (h : Ev.enter n ∈ traverseDocument d) (hp : n.pos? = some p) :
    p ∈ docPositions d :=
  List.mem_filterMap.2 ⟨_, h, hp⟩

theorem enter_of_walk (s : Schema) (d : Document) (hq : s.queryType.isSome = true) {ev : Ev} {env : Snap}
    (h : (ev, env) ∈ walkOf s d) : ev ∈ traverseDocument d :=
  (mem_walkOf_iff s d hq ev).1 ⟨env, h⟩

theorem pos_of_walk (s : Schema) (d : Document) (hq : s.queryType.isSome = true) {n : Node} {env : Snap} {p : Pos}
    (h : (Ev.enter n, env) ∈ walkOf s d) (hp : n.pos? = some p) : p ∈ docPositions d :=
  pos_of_enter (enter_of_walk s d hq h) hp

def Whole (L : List Ev) : Prop := ∀ n, Ev.enter n ∈ L → ∀ ev ∈ n.inside, ev ∈ L

theorem Whole.step (k : Nat) : Traversal.Step Whole k where
  nil := fun _ h => nomatch h
  append := fun ha hb n h ev hev => (List.mem_append.1 h).elim
    (fun h => List.mem_append_left _ (ha n h ev hev)) (fun h => List.mem_append_right _ (hb n h ev hev))
  node := fun n _ hin m h ev hev => by
    rcases List.mem_cons.1 h with h | h
    · cases h
      exact List.mem_cons_of_mem _ (List.mem_append_left _ hev)
    · rcases List.mem_append.1 h with h | h
      · exact List.mem_cons_of_mem _ (List.mem_append_left _ (hin m h ev hev))
      · cases List.mem_singleton.1 h

theorem whole_document (d : Document) : Whole (traverseDocument d) := (Whole.step 6).document (Nat.le_refl 6) d

/-- every selection set entered in `L` has the traversal of its items in `L` -/
def Closed (L : List Ev) : Prop := ∀ sel, Ev.enter (.selectionSet sel) ∈ L → ∀ ev ∈ traverseSelections sel, ev ∈ L

theorem Whole.closed {L : List Ev} (h : Whole L) : Closed L := fun sel hm => h (.selectionSet sel) hm

theorem closed_selection : ∀ x : Selection, Closed (traverseSelection x) :=
  fun x => ((Whole.step 3).selection (Nat.le_refl 3) x).closed

theorem closed_document (d : Document) : Closed (traverseDocument d) := (whole_document d).closed

def Incl (d : Document) (sel : List Selection) : Prop := ∀ ev ∈ traverseSelections sel, ev ∈ traverseDocument d

theorem incl_of_walk (s : Schema) (d : Document) (hq : s.queryType.isSome = true) {sel : List Selection} {env : Snap}
    (h : (Ev.enter (.selectionSet sel), env) ∈ walkOf s d) : Incl d sel :=
  closed_document d sel (enter_of_walk s d hq h)

theorem incl_fragment (d : Document) (f : FragDef) (h : f ∈ d.fragments) : Incl d f.sel := by
  have hw := whole_document d
  have hf : Ev.enter (.fragmentDef f) ∈ traverseDocument d :=
    enter_mem_document.2 (.inr ((enter_fragmentDef_mem_definitions f d).2 ((mem_fragments_iff d f).1 h)))
  exact hw.closed f.sel (hw _ hf _ (List.mem_append_right _ List.mem_cons_self))

theorem incl_fragByName (d : Document) (nm : Name) (f : FragDef) (h : d.fragByName nm = some f) : Incl d f.sel := by
  apply incl_fragment
  unfold Document.fragByName at h
  exact List.mem_reverse.1 (List.mem_of_find?_eq_some h)

/-- the shape of a field or inline fragment: its items come after its own callback and its
    arguments and directives, inside the callbacks of its selection set -/
theorem mem_of_mem_items {ev b : Ev} {pre items post post' : List Ev} (h : ev ∈ items) :
    ev ∈ pre ++ (b :: items ++ post) ++ post' :=
  List.mem_append_left _ (List.mem_append_right _ (List.mem_cons_of_mem _ (List.mem_append_left _ h)))

theorem spread_traversed_sel_sels :
    (∀ x sp, sp ∈ recursiveSpreadsSel x → Ev.enter (.spread sp) ∈ traverseSelection x) ∧
      ∀ xs sp, sp ∈ recursiveSpreads xs → Ev.enter (.spread sp) ∈ traverseSelections xs := by
  refine sels_induction (fun _ _ _ _ _ _ ih sp h => mem_of_mem_items (ih sp h)) ?_
    (fun _ _ _ _ ih sp h => mem_of_mem_items (ih sp h)) (fun _ h => nomatch h) ?_
  · intro p n ds sp h
    rw [List.mem_singleton.1 h]
    exact List.mem_cons_self
  · intro x xs hx hxs sp h
    exact (List.mem_append.1 h).elim (fun h => List.mem_append_left _ (hx sp h))
      fun h => List.mem_append_right _ (hxs sp h)

theorem spread_traversed_sels : ∀ (xs : List Selection) (sp : SpreadNode), sp ∈ recursiveSpreads xs → Ev.enter (.spread sp) ∈ traverseSelections xs :=
  spread_traversed_sel_sels.2

theorem field_entered_sel_sels (s : Schema) (sp : Name → List AstAndDef) :
    (∀ x parent a, a ∈ specFieldsSelWith s sp parent x →
        (∃ nm, a ∈ sp nm) ∨ Ev.enter (.field a.field) ∈ traverseSelection x) ∧
      ∀ xs parent a, a ∈ specFieldsWith s sp parent xs →
        (∃ nm, a ∈ sp nm) ∨ Ev.enter (.field a.field) ∈ traverseSelections xs := by
  refine sels_induction ?_ (fun _ nm _ _ _ h => .inl ⟨nm, h⟩)
    (fun _ _ _ _ ih _ a h => (ih _ a h).imp_right mem_of_mem_items) (fun _ _ h => nomatch h) ?_
  · intro pos alias name args dirs sel _ parent a h
    rw [List.mem_singleton.1 h]
    exact .inr List.mem_cons_self
  · intro x xs hx hxs parent a h
    exact (List.mem_append.1 h).elim (fun h => (hx parent a h).imp_right (List.mem_append_left _))
      fun h => (hxs parent a h).imp_right (List.mem_append_right _)

/-- the field node of a collected field is traversed, together with its own selection set -/
def FieldIn (L : List Ev) (a : AstAndDef) : Prop :=
  Ev.enter (.field a.field) ∈ L ∧ ∀ ev ∈ traverseSelections a.field.sel, ev ∈ L

theorem Whole.fieldIn {L : List Ev} (h : Whole L) {a : AstAndDef} (ha : Ev.enter (.field a.field) ∈ L) : FieldIn L a :=
  ⟨ha, fun ev hev => h _ ha ev (List.mem_append_right _ (List.mem_cons_of_mem _ (List.mem_append_left _ hev)))⟩

theorem field_traversed_sel (s : Schema) (sp : Name → List AstAndDef) : ∀ (x : Selection) (parent : Option TypeDef) (a : AstAndDef),
    a ∈ specFieldsSelWith s sp parent x → (∃ nm, a ∈ sp nm) ∨ FieldIn (traverseSelection x) a :=
  fun x parent a h => ((field_entered_sel_sels s sp).1 x parent a h).imp_right
    ((Whole.step 3).selection (Nat.le_refl 3) x).fieldIn

def Node.dirs : Node → List Directive
  | .operation o => o.dirs
  | .fragmentDef f => f.dirs
  | .field f => f.dirs
  | .spread sp => sp.dirs
  | .inline i => i.dirs
  | _ => []

def DirsIn (L : List Ev) : Prop := ∀ n, Ev.enter n ∈ L → ∀ dir ∈ n.dirs, Ev.enter (.directive dir) ∈ L

theorem directive_mem_traverse (ds : List Directive) (dir : Directive) (h : dir ∈ ds) :
    Ev.enter (.directive dir) ∈ traverseDirectives ds := by
  rw [traverseDirectives_eq_flatMap]
  exact List.mem_flatMap.2 ⟨dir, h, List.mem_cons_self⟩

theorem Node.dirs_inside {n : Node} {dir : Directive} (h : dir ∈ n.dirs) :
    Ev.enter (.directive dir) ∈ n.inside := by
  have hd := fun ds => directive_mem_traverse ds dir
  cases n with
  | operation o => exact List.mem_append_left _ (List.mem_append_left _ (hd _ h))
  | fragmentDef f => exact List.mem_append_left _ (hd _ h)
  | field f => exact List.mem_append_left _ (List.mem_append_right _ (hd _ h))
  | spread sp => exact hd _ h
  | inline i => exact List.mem_append_left _ (hd _ h)
  | _ => cases h

theorem Whole.dirsIn {L : List Ev} (h : Whole L) : DirsIn L :=
  fun n hm _ hdir => h n hm _ (Node.dirs_inside hdir)

theorem dirsIn_selection : ∀ x : Selection, DirsIn (traverseSelection x) :=
  fun x => ((Whole.step 3).selection (Nat.le_refl 3) x).dirsIn

theorem dirsIn_document (d : Document) : DirsIn (traverseDocument d) := (whole_document d).dirsIn

end Gql
