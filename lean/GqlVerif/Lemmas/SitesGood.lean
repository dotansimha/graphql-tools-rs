/-
  Lemmas/SitesGood.lean — on a schema whose argument types are (well-wrapped references to)
  declared input types, and a document whose variable types are, every literal position of the
  walk has such an expected type (or none).
-/
import GqlVerif.Lemmas.Coercion
import GqlVerif.Lemmas.ValueSites
namespace Gql
open Gql.Spec

/-- argument types of every field and directive of the schema are declared input types -/
def ArgsGood (s : Schema) : Prop :=
  (∀ td, SDef.type td ∈ s → ∀ n fd, td.fieldByName n = some fd → ∀ a ∈ fd.args, GoodTy s a.ty) ∧
  (∀ dd, SDef.directive dd ∈ s → ∀ a ∈ dd.args, GoodTy s a.ty)

/-- variable types of the document are declared input types -/
def VarTypesGood (s : Schema) (d : Document) : Prop :=
  ∀ o, Definition.op o ∈ d → ∀ v ∈ o.vars, GoodTy s v.ty

def SG (s : Schema) (tr : Trace) : Prop := ∀ τ v, (some τ, v) ∈ litSites tr → GoodTy s τ

theorem SG.nil (s : Schema) : SG s [] := by intro τ v h; simp [litSites] at h
theorem SG.append {s : Schema} {a b : Trace} (ha : SG s a) (hb : SG s b) : SG s (a ++ b) := by
  intro τ v h
  simp only [litSites, List.filterMap_append, List.mem_append] at h
  exact h.elim (ha τ v) (hb τ v)
theorem SG.quiet {s : Schema} {e : Ev × Snap} {t : Trace} (h : siteOf e = none) (ht : SG s t) : SG s (e :: t) := by
  intro τ v hm
  simp only [litSites, List.filterMap_cons, h] at hm
  exact ht τ v hm
theorem SG.of_noSites {s : Schema} {t : Trace} (h : litSites t = []) : SG s t := by
  intro τ v hm; rw [h] at hm; simp at hm

/-- the contexts the walk passes around only mention types of the schema -/
def SnapOk (s : Schema) (e : Snap) : Prop :=
  (∀ td, e.cur = some td → SDef.type td ∈ s) ∧ (∀ td, e.parent = some td → SDef.type td ∈ s)

theorem resolve_mem {s : Schema} {t : Option Ty} {td : TypeDef} (h : s.resolve t = some td) : SDef.type td ∈ s := by
  cases t with
  | none => simp [Schema.resolve] at h
  | some t => exact (typeByName_some (by simpa [Schema.resolve] using h)).1

theorem SnapOk.withType {s : Schema} {e : Snap} (h : SnapOk s e) (t : Option Ty) : SnapOk s (e.withType s t) :=
  ⟨fun _ hc => resolve_mem hc, h.2⟩
theorem SnapOk.withParent {s : Schema} {e : Snap} (h : SnapOk s e) : SnapOk s e.withParent :=
  ⟨h.1, h.1⟩
theorem SnapOk.withField {s : Schema} {e : Snap} (h : SnapOk s e) (f : Option FieldDef) : SnapOk s (e.withField f) := h
theorem SnapOk.empty (s : Schema) : SnapOk s Snap.empty :=
  And.intro (fun _ h => by simp [Snap.empty, Stacks.empty, Stacks.snap, top] at h) (fun _ h => by simp [Snap.empty, Stacks.empty, Stacks.snap, top] at h)

theorem SG.literal {s : Schema} {x : Ev} {e : Snap} {v : Value} {l : Ev × Snap}
    (hx : siteOf (x, e) = some (e.inpLit, v)) (hl : siteOf l = none) (hg : ∀ τ, e.inpLit = some τ → GoodTy s τ) :
    SG s ((x, e) :: walkValue s e v ++ [l]) := by
  intro τ w hm
  rw [litSites_wrap _ _ ((walk_noSites s).1 v e) hl, hx] at hm
  exact hg τ (Prod.mk.inj (List.mem_singleton.1 hm)).1.symm

theorem sg_arguments (s : Schema) (defs : Option (List InputValueDef)) (e : Snap)
    (hd : ∀ ds, defs = some ds → ∀ a ∈ ds, GoodTy s a.ty) : ∀ as, SG s (walkArguments s defs e as)
  | [] => SG.nil s
  | a :: as => by
      refine (SG.literal rfl rfl fun τ hτ => ?_).append (sg_arguments s defs e hd as)
      obtain ⟨iv, hiv, rfl⟩ := Option.map_eq_some_iff.1 (hτ : argType defs a.1 = some τ)
      obtain ⟨ds, rfl, hf⟩ := Option.bind_eq_some_iff.1 hiv
      exact hd ds rfl iv (List.mem_of_find?_eq_some hf)

theorem sg_varDefs (s : Schema) (e : Snap) : ∀ vs, (∀ v ∈ vs, GoodTy s v.ty) → SG s (walkVarDefs s e vs)
  | [], _ => SG.nil s
  | ⟨pos, name, ty, dflt⟩ :: vs, hv => by
      refine SG.append ?_ (sg_varDefs s e vs fun w hw => hv w (List.mem_cons_of_mem _ hw))
      cases dflt with
      | none => exact .quiet rfl (.quiet rfl (.nil s))
      | some dv => exact .literal rfl rfl fun τ hτ => Option.some.inj hτ ▸ hv _ (List.mem_cons_self ..)

theorem sgStep {s : Schema} (ha : ArgsGood s) :
    Walk.Step s (SnapOk s) (fun _ => True) (fun v => GoodTy s v.ty) (SG s) where
  nil := .nil s
  append := .append
  node {_ e _} hn _ ht := .quiet (outer_quiet s hn e).1.2 (.append ht (.quiet (outer_quiet s hn e).2.2 (.nil s)))
  selSet _ _ ht := .quiet rfl (.append ht (.quiet rfl (.nil s)))
  withType t he := he.withType t
  withParent := .withParent
  withField f he := he.withField f
  directive d _ := .quiet rfl (.append (sg_arguments s _ _ (fun ds h a hmem => by
    obtain ⟨dd, hdd, rfl⟩ := Option.map_eq_some_iff.1 h
    exact ha.2 dd (directiveByName_some hdd).1 a hmem) d.args) (.quiet rfl (.nil s)))
  field f he _ _ hd hs := .quiet rfl (.append (.append (.append (sg_arguments s _ _ (fun ds h a hmem => by
    obtain ⟨fd, hfd, rfl⟩ := Option.map_eq_some_iff.1 h
    obtain ⟨t, ht, hf⟩ := Option.bind_eq_some_iff.1 hfd
    exact ha.1 t (he.2 t ht) f.name fd hf a hmem) f.args) hd) hs) (.quiet rfl (.nil s)))
  varDefs vs _ := sg_varDefs s _ vs
  hered := hereditary_true

theorem sg_selection (s : Schema) (ha : ArgsGood s) : ∀ (x : Selection) (e : Snap), SnapOk s e → SG s (walkSelection s e x) :=
  fun x e he => (sgStep ha).sels.1 x [] e he trivial

/-- every literal position of the walk expects a declared input type (or nothing) -/
theorem sg_document (s : Schema) (d : Document) (ha : ArgsGood s) (hv : VarTypesGood s d) :
    SG s ((walkDocument s Snap.empty d).getD []) := by
  cases h : walkDocument s Snap.empty d with
  | none => exact SG.nil s
  | some t => exact (sgStep ha).document (SnapOk.empty s) d (fun _ _ => trivial) hv h

end Gql
