/-
  Lemmas/MergeCanon.lean — canonical witnesses for the completeness of the field-merging rule.

  The rule never compares the fields a fragment contributes with each other when it meets the
  fragment on both sides of a comparison (`collect_conflicts_between_fragments` returns at once for
  `F` against `F`): conflicts inside a fragment are found when the walk visits the fragment's own
  selection set.  A *canonical* witness of a failing pair test therefore descends only through
  pairs of nested fields that no fragment contributes both of (`¬ Shared`).  Every witness can be
  turned into a canonical one somewhere in the document (Lemmas/MergeCompleteFinal.lean).
-/
import GqlVerif.Lemmas.MergeRank
import GqlVerif.Lemmas.MergeFinal
namespace Gql
open Gql.Spec

/-- some fragment contributes both fields -/
def Shared (s : Schema) (d : Document) (x y : AstAndDef) : Prop := ∃ F, MemFrag s d F x ∧ MemFrag s d F y
/-- some fragment of rank below `r` contributes both fields -/
def SharedLt (s : Schema) (d : Document) (r : Nat) (x y : AstAndDef) : Prop :=
  ∃ F, Dr d F < r ∧ MemFrag s d F x ∧ MemFrag s d F y

theorem SharedLt.shared {s : Schema} {d : Document} {r : Nat} {x y : AstAndDef} (h : SharedLt s d r x y) : Shared s d x y := by
  obtain ⟨F, _, hx, hy⟩ := h; exact ⟨F, hx, hy⟩
theorem SharedLt.mono {s : Schema} {d : Document} {r r' : Nat} {x y : AstAndDef} (h : SharedLt s d r x y) (hle : r ≤ r') :
    SharedLt s d r' x y := by
  obtain ⟨F, hF, hx, hy⟩ := h; exact ⟨F, Nat.lt_of_lt_of_le hF hle, hx, hy⟩
theorem SharedLt.symm {s : Schema} {d : Document} {r : Nat} {x y : AstAndDef} (h : SharedLt s d r x y) : SharedLt s d r y x := by
  obtain ⟨F, hF, hx, hy⟩ := h; exact ⟨F, hF, hy, hx⟩
theorem Shared.symm {s : Schema} {d : Document} {x y : AstAndDef} (h : Shared s d x y) : Shared s d y x := by
  obtain ⟨F, hx, hy⟩ := h; exact ⟨F, hy, hx⟩

inductive ShapeBadC (s : Schema) (d : Document) : AstAndDef → AstAndDef → Prop
  | types {a b : AstAndDef} : typesAgree s a b = false → ShapeBadC s d a b
  | nested {a b x y : AstAndDef} : MemSub s d a x → MemSub s d b y → keyOf x = keyOf y → ¬ Shared s d x y →
      ShapeBadC s d x y → ShapeBadC s d a b

inductive PairBadC (s : Schema) (d : Document) : AstAndDef → AstAndDef → Prop
  | shape {a b : AstAndDef} : ShapeBadC s d a b → PairBadC s d a b
  | name {a b : AstAndDef} : parentsMayCoincide a b = true → (a.field.name == b.field.name) = false → PairBadC s d a b
  | args {a b : AstAndDef} : parentsMayCoincide a b = true → ArgsOk a → ArgsOk b →
      identicalArguments a.field.args b.field.args = false → PairBadC s d a b
  | nested {a b x y : AstAndDef} : parentsMayCoincide a b = true → MemSub s d a x → MemSub s d b y →
      keyOf x = keyOf y → ¬ Shared s d x y → PairBadC s d x y → PairBadC s d a b

theorem ShapeBadC.symm {s : Schema} {d : Document} {a b : AstAndDef} (h : ShapeBadC s d a b) : ShapeBadC s d b a := by
  induction h with
  | types h => exact .types ((typesAgree_comm s _ _).trans h)
  | nested hx hy hk hns _ ih => exact .nested hy hx hk.symm (fun h => hns h.symm) ih

theorem PairBadC.symm {s : Schema} {d : Document} {a b : AstAndDef} (h : PairBadC s d a b) : PairBadC s d b a := by
  induction h with
  | shape h => exact .shape h.symm
  | name hp hn => exact .name ((parentsMayCoincide_comm _ _).trans hp) (Bool.beq_comm.trans hn)
  | args hp ha hb hargs =>
    exact .args ((parentsMayCoincide_comm _ _).trans hp) hb ha (identicalArguments_false_symm _ _ hb ha (Or.inr hargs))
  | nested hp hx hy hk hns _ ih =>
    exact .nested ((parentsMayCoincide_comm _ _).trans hp) hy hx hk.symm (fun h => hns h.symm) ih

/-- what a comparison under the flag `me` can find, canonically -/
def FailsC (s : Schema) (d : Document) (me : Bool) (a b : AstAndDef) : Prop :=
  if me then ShapeBadC s d a b else PairBadC s d a b

theorem FailsC.symm {s : Schema} {d : Document} {me : Bool} {a b : AstAndDef} (h : FailsC s d me a b) : FailsC s d me b a := by
  cases me
  · exact PairBadC.symm h
  · exact ShapeBadC.symm h

theorem FailsC.of_true {s : Schema} {d : Document} {me : Bool} {a b : AstAndDef} (h : FailsC s d true a b) : FailsC s d me a b := by
  cases me
  · exact PairBadC.shape h
  · exact h

/-- the two collections of fields are compared completely under `me`, except for pairs a fragment
    of rank below `r` contributes both of -/
def Cross (s : Schema) (d : Document) (me : Bool) (r : Nat) (A B : AstAndDef → Prop) : Prop :=
  ∀ x y, A x → B y → keyOf x = keyOf y → SharedLt s d r x y ∨ ¬ FailsC s d me x y

theorem Cross.mono {s : Schema} {d : Document} {me : Bool} {r r' : Nat} {A B : AstAndDef → Prop}
    (h : Cross s d me r A B) (hle : r ≤ r') : Cross s d me r' A B :=
  fun x y hx hy hk => (h x y hx hy hk).imp (fun h => h.mono hle) id

theorem Cross.symm {s : Schema} {d : Document} {me : Bool} {r : Nat} {A B : AstAndDef → Prop}
    (h : Cross s d me r A B) : Cross s d me r B A :=
  fun x y hx hy hk => (h y x hy hx hk.symm).imp (fun h => h.symm) (fun h hf => h hf.symm)

theorem Cross.weaken {s : Schema} {d : Document} {me : Bool} {r : Nat} {A B : AstAndDef → Prop}
    (h : Cross s d false r A B) : Cross s d me r A B := by
  cases me
  · exact h
  · exact fun x y hx hy hk => (h x y hx hy hk).imp id (fun h hf => h (FailsC.of_true hf))

/-- what the memo table promises for an entry `((a, b), flag)` -/
def FragOK (s : Schema) (d : Document) (flag : Bool) (a b : Name) : Prop :=
  Cross s d flag (min (Dr d a) (Dr d b) + 1) (MemFrag s d a) (MemFrag s d b)

theorem FragOK.symm {s : Schema} {d : Document} {flag : Bool} {a b : Name} (h : FragOK s d flag a b) : FragOK s d flag b a := by
  unfold FragOK at h ⊢
  rw [Nat.min_comm]
  exact Cross.symm h

end Gql
