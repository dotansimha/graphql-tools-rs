/-
  Lemmas/MergeComplete.lean — completeness of the five mutually recursive functions of the
  field-merging rule on documents without fragment cycles: a call that reports no conflict (and
  does not run out of fuel) has compared its two collections of fields completely, for whatever
  the memo table `compared_fragments` and the `visited_fragments` list contained when it started —
  provided what they contained was justified:

  * every memo entry is either *pending* (its comparison is still running further up the call
    stack) or has the completeness it promises (`FragOK`); pending entries rank above every pair
    of fragments compared underneath (`Safe`, by the rank of Lemmas/MergeRank.lean), so they are
    never hit;
  * every name in the visited list that can still be met on the way down has been compared
    completely with the same collection of fields.
-/
import GqlVerif.Lemmas.MergeDecomp
namespace Gql
open Gql.Spec

structure StepOk {α : Type} (step : MRes → α → MRes) : Prop where
  nil : ∀ acc x, (step acc x).1 = [] → acc.1 = []
  stuck : ∀ acc x, acc.2.stuck = true → (step acc x).2.stuck = true

theorem foldl_stuck {α : Type} {step : MRes → α → MRes} (h : StepOk step) :
    ∀ (L : List α) (acc : MRes), acc.2.stuck = true → (L.foldl step acc).2.stuck = true :=
  fun L acc hs => foldl_inv_mem (fun acc : MRes => acc.2.stuck = true) L acc hs fun acc x _ => h.stuck acc x

theorem foldl_end_back {α β : Type} {step : β → α → β} {S : β → Prop} (hS : ∀ acc x, S (step acc x) → S acc) :
    ∀ (L : List α) (acc : β), S (L.foldl step acc) → S acc
  | [], _, h => h
  | x :: L, acc, h => hS acc x (foldl_end_back hS L _ h)

theorem foldl_nil {α : Type} {step : MRes → α → MRes} (h : StepOk step) :
    ∀ (L : List α) (acc : MRes), (L.foldl step acc).1 = [] → acc.1 = [] :=
  foldl_end_back (S := fun acc : MRes => acc.1 = []) h.nil

theorem StepOk.fold {α β : Type} {step : β → MRes → α → MRes} (h : ∀ b, StepOk (step b)) (L : β → List α) :
    StepOk (fun acc (b : β) => (L b).foldl (step b) acc) where
  nil := fun acc b hn => foldl_nil (h b) (L b) acc hn
  stuck := fun acc b hs => foldl_stuck (h b) (L b) acc hs

theorem unstuck_of {st st' : MState} (hmono : st.stuck = true → st'.stuck = true) (h : st'.stuck = false) : st.stuck = false := by
  cases hs : st.stuck with
  | false => rfl
  | true => rw [hmono hs] at h; cases h

theorem foldl_inv_end {α β : Type} {step : β → α → β} {S : β → Prop} (hS : ∀ acc x, S (step acc x) → S acc)
    (I : β → Prop) (Q : α → Prop) : ∀ (L : List α) (acc : β),
      (∀ x ∈ L, ∀ acc, I acc → S (step acc x) → I (step acc x) ∧ Q x) → S (L.foldl step acc) → I acc →
      I (L.foldl step acc) ∧ ∀ x ∈ L, Q x
  | [], _, _, _, hI => ⟨hI, fun _ h => absurd h List.not_mem_nil⟩
  | x :: L, acc, hstep, hs, hI => by
      obtain ⟨hI', hq⟩ := hstep x List.mem_cons_self acc hI (foldl_end_back hS L _ hs)
      obtain ⟨hI'', hqs⟩ := foldl_inv_end hS I Q L _ (fun y hy => hstep y (List.mem_cons_of_mem x hy)) hs hI'
      exact ⟨hI'', List.forall_mem_cons.2 ⟨hq, hqs⟩⟩

def Silent (r : MRes) : Prop := r.1 = [] ∧ r.2.stuck = false

theorem StepOk.silent {α : Type} {step : MRes → α → MRes} (h : StepOk step) (acc : MRes) (x : α)
    (hs : Silent (step acc x)) : Silent acc :=
  ⟨h.nil acc x hs.1, unstuck_of (h.stuck acc x) hs.2⟩

theorem foldl_inv {α : Type} {step : MRes → α → MRes} (hok : StepOk step) (I : MState → Prop) (Q : α → Prop) :
    ∀ (L : List α) (acc : MRes),
      (∀ x ∈ L, ∀ acc : MRes, I acc.2 → (step acc x).1 = [] → (step acc x).2.stuck = false → I (step acc x).2 ∧ Q x) →
      (L.foldl step acc).1 = [] → (L.foldl step acc).2.stuck = false → I acc.2 →
      I (L.foldl step acc).2 ∧ ∀ x ∈ L, Q x :=
  fun L acc hstep hn hs hI =>
    foldl_inv_end hok.silent (fun acc => I acc.2) Q L acc
      (fun x hx acc hI h => hstep x hx acc hI h.1 h.2) ⟨hn, hs⟩ hI

theorem foldl_silent {α : Type} {step : MRes → α → MRes} (h : StepOk step) (L : List α) (acc : MRes)
    (hs : Silent (L.foldl step acc)) : Silent acc :=
  foldl_end_back h.silent L acc hs

theorem Silent.of_setVisited {r : MRes} {v : List Name} (h : Silent (r.setVisited v)) : Silent r := h

theorem stepOk_cat {α : Type} (f : α → MState → MRes) (hmono : ∀ x st, st.stuck = true → (f x st).2.stuck = true) :
    StepOk (fun (acc : MRes) x => ((acc.1 ++ (f x acc.2).1, (f x acc.2).2) : MRes)) where
  nil := fun acc x hn => by
    simp only [List.append_eq_nil_iff] at hn
    exact hn.1
  stuck := fun acc x hs => hmono x acc.2 hs

theorem pushConflict_nil {acc : MRes} {r : Option Conflict × MState} (h : (pushConflict acc r).1 = []) : r.1 = none := by
  unfold pushConflict at h
  cases hr : r.1 with
  | none => rfl
  | some c => rw [hr] at h; simp at h

theorem stepOk_push {α : Type} (g : α → MState → Option Conflict × MState)
    (hmono : ∀ x st, st.stuck = true → (g x st).2.stuck = true) :
    StepOk (fun (acc : MRes) x => pushConflict acc (g x acc.2)) where
  nil := fun acc x hn => by
    have h := pushConflict_nil hn
    unfold pushConflict at hn
    rw [h] at hn
    exact hn
  stuck := fun acc x hs => hmono x acc.2 hs

theorem stepOk_visit (f : Name → MState → MRes) (hmono : ∀ x st, st.stuck = true → (f x st).2.stuck = true) :
    StepOk (visitStep f) where
  nil := fun acc x hn => by
    unfold visitStep at hn
    split at hn
    · exact hn
    · exact (List.append_eq_nil_iff.1 hn).1
  stuck := fun acc x hs => by
    unfold visitStep
    split
    · exact hs
    · exact hmono x _ hs

section
variable {α : Type} {f : α → MState → MRes} (hmono : ∀ x st, st.stuck = true → (f x st).2.stuck = true)
include hmono

theorem runAll_silent (L : List α) (acc : MRes) (hs : Silent (runAll f L acc)) : Silent acc :=
  foldl_silent (stepOk_cat f hmono) L acc hs

theorem runAll_inv (I : MState → Prop) (Q : α → Prop) (L : List α) (acc : MRes)
    (hstep : ∀ x ∈ L, ∀ st, I st → Silent (f x st) → I (f x st).2 ∧ Q x)
    (hs : Silent (runAll f L acc)) (hI : I acc.2) : I (runAll f L acc).2 ∧ ∀ x ∈ L, Q x :=
  foldl_inv (stepOk_cat f hmono) I Q L acc
    (fun x hx acc hI hn hs => hstep x hx acc.2 hI ⟨(List.append_eq_nil_iff.1 hn).2, hs⟩) hs.1 hs.2 hI
end

theorem stuck_fc (s : Schema) (d : Document) (n : Nat) (key : Name) (a b : AstAndDef) (pe : Bool) (st : MState)
    (h : st.stuck = true) : (findConflict s d n key a b pe st).2.stuck = true := by
  cases n <;> simp [findConflict, h]
theorem stuck_cb (s : Schema) (d : Document) (n : Nat) (me : Bool) (fm1 fm2 : FieldMap) (st : MState)
    (h : st.stuck = true) : (conflictsBetween s d n me fm1 fm2 st).2.stuck = true := by
  cases n <;> simp [conflictsBetween, h]
theorem stuck_bs (s : Schema) (d : Document) (n : Nat) (me : Bool) (pn1 : Option Name) (sel1 : List Selection)
    (pn2 : Option Name) (sel2 : List Selection) (st : MState)
    (h : st.stuck = true) : (betweenSubSelectionSets s d n me pn1 sel1 pn2 sel2 st).2.stuck = true := by
  cases n <;> simp [betweenSubSelectionSets, h]
theorem stuck_ff (s : Schema) (d : Document) (n : Nat) (fm : FieldMap) (nm : Name) (me : Bool) (st : MState)
    (h : st.stuck = true) : (fieldsAndFragment s d n fm nm me st).2.stuck = true := by
  cases n <;> simp [fieldsAndFragment, h]
theorem stuck_bf (s : Schema) (d : Document) (n : Nat) (n1 n2 : Name) (me : Bool) (st : MState)
    (h : st.stuck = true) : (betweenFragments s d n n1 n2 me st).2.stuck = true := by
  cases n <;> simp [betweenFragments, h]

/-- memo entries whose comparison is still running -/
abbrev Pend := List ((Name × Name) × Bool)

def MemoOK (s : Schema) (d : Document) (P : Pend) (c : PairSet) : Prop :=
  ∀ e ∈ c, e ∈ P ∨ FragOK s d e.2 e.1.1 e.1.2

/-- every pending pair ranks above every pair of fragments (of ranks below `r1`, `r2`) compared underneath -/
def Safe (d : Document) (P : Pend) (r1 r2 : Nat) : Prop := ∀ p ∈ P, r1 + r2 ≤ Dr d p.1.1 + Dr d p.1.2 + 1

theorem Safe.mono {d : Document} {P : Pend} {r1 r2 r1' r2' : Nat} (h : Safe d P r1 r2) (h1 : r1' ≤ r1) (h2 : r2' ≤ r2) :
    Safe d P r1' r2' := fun p hp => by have := h p hp; omega

theorem mem_alInsert {κ ν : Type} [DecidableEq κ] (m : List (κ × ν)) (k : κ) (v : ν) (e : κ × ν)
    (h : e ∈ alInsert m k v) : e ∈ m ∨ e = (k, v) := by
  rw [alInsert_eq_alUpdate, mem_alUpdate] at h
  exact h.elim (fun h => Or.inl h.1) fun h => Or.inr (h.elim (fun ⟨_, _, e⟩ => e) And.right)

section
variable {s : Schema} {d : Document} {P : Pend} {n1 n2 : Name} {me : Bool}

/-- `collect_conflicts_between_fragments` enters the pair before it does the work: both orders become pending -/
theorem MemoOK.insertPair {c : PairSet} (h : MemoOK s d P c) :
    MemoOK s d (((n1, n2), me) :: ((n2, n1), me) :: P) (c.insertPair n1 n2 me) := by
  intro e he
  rcases mem_alInsert _ _ _ _ he with he | rfl
  · rcases mem_alInsert _ _ _ _ he with he | rfl
    · exact (h e he).imp (fun h => List.mem_cons_of_mem _ (List.mem_cons_of_mem _ h)) id
    · exact Or.inl List.mem_cons_self
  · exact Or.inl (List.mem_cons_of_mem _ List.mem_cons_self)

/-- when the work is done the pair is no longer pending, whichever entry the table now holds for it -/
theorem MemoOK.close {c : PairSet} (h : MemoOK s d (((n1, n2), me) :: ((n2, n1), me) :: P) c) (hok : FragOK s d me n1 n2) :
    MemoOK s d P c := by
  intro e he
  rcases h e he with h | h
  · rcases List.mem_cons.1 h with rfl | h
    · exact Or.inr hok
    · rcases List.mem_cons.1 h with rfl | h
      · exact Or.inr hok.symm
      · exact Or.inl h
  · exact Or.inr h

/-- the calls made while `(n1, n2)` is pending: one side may stay at the rank of its fragment, the other goes below -/
theorem Safe.pending {r1 r2 q1 q2 : Nat} (h : Safe d P r1 r2) (h1 : q1 ≤ r1) (h2 : q2 ≤ r2)
    (hq : q1 + q2 ≤ Dr d n1 + Dr d n2 + 1) : Safe d (((n1, n2), me) :: ((n2, n1), me) :: P) q1 q2 := by
  intro p hp
  rcases List.mem_cons.1 hp with rfl | hp
  · exact hq
  · rcases List.mem_cons.1 hp with rfl | hp
    · exact Nat.add_comm (Dr d n1) _ ▸ hq
    · have := h p hp; omega

/-- a memo hit is never a pending entry (it would rank above itself), and its flag covers `me` -/
theorem MemoOK.hit {c : PairSet} {r1 r2 : Nat} (h : MemoOK s d P c) (hsafe : Safe d P r1 r2) (hn1 : Dr d n1 + 1 ≤ r1)
    (hn2 : Dr d n2 + 1 ≤ r2) (hc : c.containsPair n1 n2 me = true) : FragOK s d me n1 n2 := by
  unfold PairSet.containsPair at hc
  cases hg : alGet c (n1, n2) with
  | none => rw [hg] at hc; cases hc
  | some flag =>
    rw [hg] at hc
    rcases h _ (mem_of_alGet c (n1, n2) flag hg) with hp | hok
    · have := hsafe _ hp
      simp only at this
      omega
    · cases flag with
      | false => exact Cross.weaken hok
      | true =>
        cases me with
        | false => cases hc
        | true => exact hok
end

/-- the own selection sets of the map's fields rank at most `r` -/
def FMR (d : Document) (fm : FieldMap) (r : Nat) : Prop := ∀ a, FM fm a → Rs d a.field.sel ≤ r

/-- the fields of the map have been compared completely with what the fragment contributes -/
def FFOK (s : Schema) (d : Document) (fm : FieldMap) (h : Name) (me : Bool) : Prop :=
  ∀ x y, FM fm x → MemFrag s d h y → keyOf x = keyOf y → ¬ FailsC s d me x y

theorem memSub_nil (s : Schema) (d : Document) (a x : AstAndDef) (h : a.field.sel = []) : ¬ MemSub s d a x := by
  rintro ⟨n, hx⟩
  rw [h] at hx
  simp [specFields, specFieldsWith] at hx

/-- the part of `find_conflict` that does not touch the state: if the four local tests pass and the
    nested fields have been compared completely, no canonical witness exists -/
theorem not_failsC_of (s : Schema) (d : Document) (pe : Bool) (a b : AstAndDef)
    (hname : ¬ ((!meOf pe a b && a.field.name != b.field.name) = true))
    (hargs : ¬ ((!meOf pe a b && !sameArguments a.field.args b.field.args) = true))
    (htc : typeConflictOf s a b = none)
    (hsub : ∀ x y, MemSub s d a x → MemSub s d b y → keyOf x = keyOf y → Shared s d x y ∨ ¬ FailsC s d (meOf pe a b) x y) :
    ¬ FailsC s d pe a b := by
  have hta : typesAgree s a b = true := by
    have h1 : typeConflictB s a b = false := by rw [typeConflictB_eq, htc]; rfl
    simpa [typeConflictB_iff] using h1
  have shape : ¬ ShapeBadC s d a b := by
    intro hf
    cases hf with
    | types h => rw [hta] at h; cases h
    | nested hx hy hk hns hsh =>
      rcases hsub _ _ hx hy hk with h | h
      · exact hns h
      · exact h (FailsC.of_true hsh)
  intro hf
  cases pe with
  | true => exact shape hf
  | false =>
    have hm := meOf_false a b
    cases hf with
    | shape hs => exact shape hs
    | name hp hn =>
      rw [hm, hp] at hname
      simp only [Bool.not_true, Bool.not_false, Bool.true_and, bne_iff_ne, ne_eq, Decidable.not_not] at hname
      simp only [beq_eq_false_iff_ne, ne_eq] at hn
      exact hn hname
    | args hp _ _ ha =>
      rw [hm, hp] at hargs
      simp only [Bool.not_true, Bool.not_false, Bool.true_and, Bool.not_eq_true', Bool.not_eq_false] at hargs
      rw [C05.sameArguments_eq, ha] at hargs
      cases hargs
    | nested hp hx hy hk hns hpb =>
      rcases hsub _ _ hx hy hk with h | h
      · exact hns h
      · rw [hm, hp] at h
        exact h hpb

theorem between_inv (fc : Name → AstAndDef → AstAndDef → Bool → MState → Option Conflict × MState)
    (hmono : ∀ k a b me st, st.stuck = true → (fc k a b me st).2.stuck = true)
    (me : Bool) (fm1 fm2 : FieldMap) (I : MState → Prop) (Q : AstAndDef → AstAndDef → Prop)
    (h2 : KeyOk fm2) (hn2 : (alKeys fm2).Nodup)
    (hfc : ∀ k a b st, FM fm1 a → FM fm2 b → I st → (fc k a b me st).1 = none → (fc k a b me st).2.stuck = false →
      I (fc k a b me st).2 ∧ Q a b)
    (st : MState) (hnil : (fm1.foldl (betweenKeyStep fc me fm2) ([], st)).1 = [])
    (hns : (fm1.foldl (betweenKeyStep fc me fm2) ([], st)).2.stuck = false) (hI : I st) :
    I (fm1.foldl (betweenKeyStep fc me fm2) ([], st)).2 ∧
      ∀ a b, FM fm1 a → FM fm2 b → keyOf a = keyOf b → (∀ kv ∈ fm1, ∀ x ∈ kv.2, keyOf x = kv.1) → Q a b := by
  have okF : ∀ (k : Name) (a : AstAndDef), StepOk (fun (acc : MRes) f2 => pushConflict acc (fc k a f2 me acc.2)) :=
    fun k a => stepOk_push (fun f2 st => fc k a f2 me st) (fun f2 st hs => hmono k a f2 me st hs)
  have okA : ∀ (k : Name) (L : List AstAndDef), StepOk (betweenFieldsStep fc k me L) :=
    fun k L => StepOk.fold (okF k) fun _ => L
  have okK : StepOk (betweenKeyStep fc me fm2) :=
    StepOk.fold (fun kv : Name × List AstAndDef => okA kv.1 ((alGet fm2 kv.1).getD [])) fun kv => kv.2
  obtain ⟨hI', hq⟩ := foldl_inv okK I
    (fun kv => ∀ a ∈ kv.2, ∀ b ∈ (alGet fm2 kv.1).getD [], Q a b) fm1 ([], st)
    (by
      intro kv hkv acc hIa hn hs
      unfold betweenKeyStep at hn hs ⊢
      exact foldl_inv (okA kv.1 _) I (fun a => ∀ b ∈ (alGet fm2 kv.1).getD [], Q a b) kv.2 acc
        (by
          intro a ha acc hIa hn hs
          unfold betweenFieldsStep at hn hs ⊢
          exact foldl_inv (okF kv.1 a) I (fun b => Q a b) _ acc
            (by
              intro b hb acc hIa hn hs
              exact hfc kv.1 a b acc.2 ⟨kv, hkv, ha⟩ (fm_of_alGet hb) hIa (pushConflict_nil hn) hs)
            hn hs hIa)
        hn hs hIa)
    hnil hns hI
  refine ⟨hI', ?_⟩
  intro a b ⟨kv, hkv, ha⟩ hb hk h1
  obtain ⟨l, hl, hbl, _⟩ := fm_alGet h2 hn2 hb
  have hkey : kv.1 = keyOf b := by rw [← h1 kv hkv a ha]; exact hk
  have := hq kv hkv a ha b (by rw [hkey, hl]; exact hbl)
  exact this

structure CompleteAt (s : Schema) (d : Document) (n : Nat) : Prop where
  fc : ∀ key a b pe st P r1 r2 res, findConflict s d n key a b pe st = res → res.1 = none → res.2.stuck = false →
    MemoOK s d P st.compared → Safe d P r1 r2 → Rs d a.field.sel ≤ r1 → Rs d b.field.sel ≤ r2 →
    MemoOK s d P res.2.compared ∧ res.2.visited = st.visited ∧ ¬ FailsC s d pe a b
  cb : ∀ me fm1 fm2 st P r1 r2 res, conflictsBetween s d n me fm1 fm2 st = res → res.1 = [] → res.2.stuck = false →
    KeyOk fm1 → KeyOk fm2 → (alKeys fm2).Nodup →
    MemoOK s d P st.compared → Safe d P r1 r2 → FMR d fm1 r1 → FMR d fm2 r2 →
    MemoOK s d P res.2.compared ∧ res.2.visited = st.visited ∧
      ∀ x y, FM fm1 x → FM fm2 y → keyOf x = keyOf y → ¬ FailsC s d me x y
  bs : ∀ me pn1 sel1 pn2 sel2 st P r1 r2 res, betweenSubSelectionSets s d n me pn1 sel1 pn2 sel2 st = res →
    res.1 = [] → res.2.stuck = false →
    MemoOK s d P st.compared → Safe d P r1 r2 → Rs d sel1 ≤ r1 → Rs d sel2 ≤ r2 →
    MemoOK s d P res.2.compared ∧ res.2.visited = st.visited ∧
      Cross s d me (min r1 r2) (Mem s d (pn1.bind s.typeByName) sel1) (Mem s d (pn2.bind s.typeByName) sel2)
  ff : ∀ fm nm me st P r1 r2 res, fieldsAndFragment s d n fm nm me st = res → res.1 = [] → res.2.stuck = false →
    KeyOk fm → MemoOK s d P st.compared → Safe d P r1 r2 → FMR d fm r1 → Dr d nm + 1 ≤ r2 →
    (∀ h ∈ st.visited, Dr d h < Dr d nm → FFOK s d fm h me) →
    MemoOK s d P res.2.compared ∧ FFOK s d fm nm me ∧ ∀ h ∈ res.2.visited, h ∈ st.visited ∨ FFOK s d fm h me
  bf : ∀ n1 n2 me st P r1 r2 res, betweenFragments s d n n1 n2 me st = res → res.1 = [] → res.2.stuck = false →
    MemoOK s d P st.compared → Safe d P r1 r2 → Dr d n1 + 1 ≤ r1 → Dr d n2 + 1 ≤ r2 →
    MemoOK s d P res.2.compared ∧ res.2.visited = st.visited ∧ FragOK s d me n1 n2

theorem completeAt_zero (s : Schema) (d : Document) : CompleteAt s d 0 where
  fc := by intro key a b pe st P r1 r2 res h _ hs; subst h; simp [findConflict] at hs
  cb := by intro me fm1 fm2 st P r1 r2 res h _ hs; subst h; simp [conflictsBetween] at hs
  bs := by intro me pn1 sel1 pn2 sel2 st P r1 r2 res h _ hs; subst h; simp [betweenSubSelectionSets] at hs
  ff := by intro fm nm me st P r1 r2 res h _ hs; subst h; simp [fieldsAndFragment] at hs
  bf := by intro n1 n2 me st P r1 r2 res h _ hs; subst h; simp [betweenFragments] at hs

end Gql
