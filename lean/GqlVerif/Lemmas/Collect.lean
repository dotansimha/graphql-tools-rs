/-
  Lemmas/Collect.lean — the fuel-driven `collectN` computes the spec relation `Collects`
  (soundness), and never runs out of fuel when given more fuel than there are fragment
  definitions whose name is still unvisited (termination, also on cyclic fragment graphs).
-/
import GqlVerif.Spec.Collect
import GqlVerif.Lemmas.Schema
import GqlVerif.Lemmas.AssocList
import GqlVerif.Lemmas.Traverse
namespace Gql
open Gql.Spec

section
variable (s : Schema) (d : Document) (R : TypeDef)

/-- the parent type is an object type defined in a schema with unique type names -/
structure ParentOk : Prop where
  nodup : s.typeNames.Nodup
  mem : SDef.type R ∈ s
  obj : R.isObject = true

theorem conditionMatches_iff (h : ParentOk s R) (tc : Option Name) :
    conditionMatches s tc R = true ↔ Applies s R tc := by
  cases tc with
  | none => exact ⟨fun _ => trivial, fun _ => rfl⟩
  | some c =>
    unfold conditionMatches Applies
    dsimp only
    cases hc : s.typeByName c with
    | none => exact ⟨Bool.noConfusion, False.elim⟩
    | some ct =>
      dsimp only
      have hany : ∀ (l : List Name) (a : Name), (l.any fun v => a == v) = true ↔ a ∈ l :=
        fun l a => by rw [List.any_beq, List.contains_iff_mem]
      by_cases heq : ct.name = R.name
      · -- same name: with unique names `ct` is `R`, an object type
        have hR := typeByName_of_mem h.nodup h.mem
        rw [← heq, (typeByName_some hc).2, hc] at hR
        have hobj : ct.isObject = true := Option.some.inj hR ▸ h.obj
        rw [if_pos (beq_iff_eq.2 heq)]
        cases ct with
        | object n is fs => exact ⟨fun _ => heq, fun _ => rfl⟩
        | _ => exact absurd hobj Bool.false_ne_true
      · rw [if_neg fun hb => heq (beq_iff_eq.1 hb)]
        cases ct with
        | object n is fs => exact ⟨Bool.noConfusion, fun h => absurd h heq⟩
        | interface n is fs => exact hany _ _
        | union n ms => exact hany _ _
        | _ => exact ⟨Bool.noConfusion, False.elim⟩

def SelsOk (xs : List Selection) (st st2 : CState) : Prop :=
  st2.stuck = false → st.stuck = false ∧
    ∃ fs, Collects s d R xs st.visited fs st2.visited ∧ st2.groups = fs.foldl addField st.groups

def SelOk (x : Selection) (st st1 : CState) : Prop :=
  st1.stuck = false → st.stuck = false ∧
    ∀ rest fs2 vis2, Collects s d R rest st1.visited fs2 vis2 →
      ∃ fs1, Collects s d R (x :: rest) st.visited (fs1 ++ fs2) vis2 ∧ st1.groups = fs1.foldl addField st.groups

/-- what the structural part needs to know about the function called at a spread -/
def ExpandSpec (expand : Name → CState → CState) : Prop :=
  ∀ name st,
    match d.fragByName name with
    | none => expand name st = st
    | some frag =>
      if conditionMatches s (some frag.tc) R then SelsOk s d R frag.sel st (expand name st)
      else expand name st = st

theorem collect_ok (h : ParentOk s R) (expand : Name → CState → CState) (hE : ExpandSpec s d R expand) :
    (∀ (x : Selection) (st : CState), SelOk s d R x st (collectSel s R expand x st)) ∧
      ∀ (xs : List Selection) (st : CState), SelsOk s d R xs st (collectSels s R expand xs st) := by
  refine sels_induction ?_ ?_ ?_ ?_ ?_
  · intro pos alias name args dirs sel _ st
    rw [collectSel]
    exact fun hns => ⟨hns, fun _ _ _ hc => ⟨[⟨pos, alias, name, args, dirs, sel⟩], Collects.field hc, rfl⟩⟩
  · intro pos name dirs st
    rw [collectSel]
    by_cases hv : st.visited.contains name = true
    · rw [if_pos hv]
      exact fun hns => ⟨hns, fun _ _ _ hc => ⟨[], Collects.spreadVisited (List.contains_iff_mem.1 hv) hc, rfl⟩⟩
    · rw [if_neg hv]
      have hnv : name ∉ st.visited := fun hm => hv (List.contains_iff_mem.2 hm)
      have hspec := hE name { st with visited := st.visited ++ [name] }
      cases hf : d.fragByName name with
      | none =>
        rw [hf] at hspec
        rw [show expand name _ = _ from hspec]
        exact fun hns => ⟨hns, fun _ _ _ hc => ⟨[], Collects.spreadUnknown hnv hf hc, rfl⟩⟩
      | some frag =>
        simp only [hf] at hspec
        by_cases hm : conditionMatches s (some frag.tc) R = true
        · rw [if_pos hm] at hspec
          intro hns
          obtain ⟨h0, fs1, hc1, hg⟩ := hspec hns
          exact ⟨h0, fun _ _ _ hc =>
            ⟨fs1, Collects.spreadExpand hnv hf ((conditionMatches_iff s R h _).1 hm) hc1 hc, hg⟩⟩
        · rw [if_neg hm] at hspec
          rw [show expand name _ = _ from hspec]
          exact fun hns => ⟨hns, fun _ _ _ hc =>
            ⟨[], Collects.spreadSkip hnv hf (fun ha => hm ((conditionMatches_iff s R h _).2 ha)) hc, rfl⟩⟩
  · intro pos tc dirs sel ih st
    rw [collectSel]
    by_cases hm : conditionMatches s tc R = true
    · rw [if_pos hm]
      intro hns
      obtain ⟨h0, fs1, hc1, hg⟩ := ih st hns
      exact ⟨h0, fun _ _ _ hc => ⟨fs1, Collects.inlineExpand ((conditionMatches_iff s R h tc).1 hm) hc1 hc, hg⟩⟩
    · rw [if_neg hm]
      exact fun hns => ⟨hns, fun _ _ _ hc =>
        ⟨[], Collects.inlineSkip (fun ha => hm ((conditionMatches_iff s R h tc).2 ha)) hc, rfl⟩⟩
  · intro st
    rw [collectSels]
    exact fun hns => ⟨hns, [], Collects.nil _, rfl⟩
  · intro x xs ihx ihxs st
    rw [collectSels]
    intro hns
    obtain ⟨h1, fs2, hc2, hg2⟩ := ihxs _ hns
    obtain ⟨h0, hk⟩ := ihx st h1
    obtain ⟨fs1, hc1, hg1⟩ := hk xs fs2 _ hc2
    exact ⟨h0, fs1 ++ fs2, hc1, by rw [hg2, hg1, List.foldl_append]⟩

theorem collectSel_ok (h : ParentOk s R) (expand : Name → CState → CState) (hE : ExpandSpec s d R expand) :
    ∀ (x : Selection) (st : CState), SelOk s d R x st (collectSel s R expand x st) :=
  (collect_ok s d R h expand hE).1

theorem collectN_ok (h : ParentOk s R) (n : Nat) : ∀ (sel : List Selection) (st : CState),
    SelsOk s d R sel st (collectN s d R n sel st) := by
  induction n with
  | zero => intro sel st hns; simp [collectN] at hns
  | succ n ih =>
      intro sel st
      simp only [collectN]
      apply (collect_ok s d R h _ ?_).2
      intro name st'
      cases hf : d.fragByName name with
      | none => simp only [hf]
      | some frag =>
        by_cases hm : conditionMatches s (some frag.tc) R = true
        · simp only [hf, hm, if_true]; exact ih frag.sel st'
        · simp only [hf, hm, Bool.false_eq_true, if_false]

/-- fragment definitions whose name has not been visited yet -/
def remaining (vis : List Name) : Nat := (d.fragments.filter fun f => !vis.contains f.name).length

theorem fragByName_some_mem {name : Name} {frag : FragDef} (hf : d.fragByName name = some frag) :
    frag ∈ d.fragments ∧ frag.name = name := by
  unfold Document.fragByName at hf
  have h1 := List.find?_some hf
  have h2 := List.mem_of_find?_eq_some hf
  exact ⟨by simpa using h2, by simpa using h1⟩

theorem remaining_mono {v1 v2 : List Name} (h : ∀ x ∈ v1, x ∈ v2) : remaining d v2 ≤ remaining d v1 := by
  unfold remaining
  apply filter_length_le
  intro f hf
  simp only [Bool.not_eq_eq_eq_not, Bool.not_true, List.contains_eq_mem, decide_eq_false_iff_not] at hf ⊢
  exact fun hm => hf (h _ hm)

theorem remaining_push {vis : List Name} {name : Name} {frag : FragDef}
    (hf : d.fragByName name = some frag) (hnv : name ∉ vis) : remaining d (vis ++ [name]) < remaining d vis := by
  obtain ⟨hmem, hname⟩ := fragByName_some_mem d hf
  unfold remaining
  apply filter_length_lt _ _ _ _ frag hmem
  · simpa [hname] using hnv
  · simp [hname]
  · intro f hf'
    simp only [Bool.not_eq_eq_eq_not, Bool.not_true, List.contains_eq_mem, decide_eq_false_iff_not,
      List.mem_append, List.mem_singleton, not_or] at hf' ⊢
    exact hf'.1

def TermOk (st st' : CState) : Prop := st'.stuck = false ∧ ∀ x ∈ st.visited, x ∈ st'.visited

def ExpandTerm (expand : Name → CState → CState) (n : Nat) : Prop :=
  ∀ name st, st.stuck = false →
    match d.fragByName name with
    | none => expand name st = st
    | some _ => remaining d st.visited < n → TermOk st (expand name st)

theorem collect_term (expand : Name → CState → CState) (n : Nat) (hE : ExpandTerm d expand n) :
    (∀ (x : Selection) (st : CState), st.stuck = false → remaining d st.visited ≤ n →
      TermOk st (collectSel s R expand x st)) ∧
    ∀ (xs : List Selection) (st : CState), st.stuck = false → remaining d st.visited ≤ n →
      TermOk st (collectSels s R expand xs st) := by
  refine sels_induction ?_ ?_ ?_ ?_ ?_
  · intro pos alias name args dirs sel _ st h0 _
    rw [collectSel]; exact ⟨h0, fun x hx => hx⟩
  · intro pos name dirs st h0 hr
    rw [collectSel]
    by_cases hv : st.visited.contains name = true
    · rw [if_pos hv]; exact ⟨h0, fun x hx => hx⟩
    · rw [if_neg hv]
      have hspec := hE name { st with visited := st.visited ++ [name] } h0
      cases hf : d.fragByName name with
      | none =>
        rw [hf] at hspec
        rw [show expand name _ = _ from hspec]
        exact ⟨h0, fun x hx => List.mem_append_left _ hx⟩
      | some frag =>
        simp only [hf] at hspec
        have hlt := remaining_push d hf fun hm => hv (List.contains_iff_mem.2 hm)
        obtain ⟨h1, h2⟩ := hspec (Nat.lt_of_lt_of_le hlt hr)
        exact ⟨h1, fun x hx => h2 x (List.mem_append_left _ hx)⟩
  · intro pos tc dirs sel ih st h0 hr
    rw [collectSel]
    by_cases hm : conditionMatches s tc R = true
    · rw [if_pos hm]; exact ih st h0 hr
    · rw [if_neg hm]; exact ⟨h0, fun x hx => hx⟩
  · intro st h0 _
    rw [collectSels]; exact ⟨h0, fun x hx => hx⟩
  · intro x xs ihx ihxs st h0 hr
    rw [collectSels]
    obtain ⟨h1, hm1⟩ := ihx st h0 hr
    obtain ⟨h2, hm2⟩ := ihxs _ h1 (Nat.le_trans (remaining_mono d hm1) hr)
    exact ⟨h2, fun y hy => hm2 y (hm1 y hy)⟩

theorem collectSel_term (expand : Name → CState → CState) (n : Nat) (hE : ExpandTerm d expand n) :
    ∀ (x : Selection) (st : CState), st.stuck = false → remaining d st.visited ≤ n →
      TermOk st (collectSel s R expand x st) :=
  (collect_term s d R expand n hE).1

theorem collectN_term (n : Nat) : ∀ (sel : List Selection) (st : CState),
    st.stuck = false → remaining d st.visited < n → TermOk st (collectN s d R n sel st) := by
  induction n with
  | zero => exact fun _ _ _ hr => absurd hr (Nat.not_lt_zero _)
  | succ n ih =>
      intro sel st h0 hr
      rw [collectN]
      refine (collect_term s d R _ n ?_).2 sel st h0 (Nat.le_of_lt_succ hr)
      intro name st' h0'
      cases hf : d.fragByName name with
      | none => simp only [hf]
      | some frag =>
        simp only [hf]
        intro hlt
        by_cases hm : conditionMatches s (some frag.tc) R = true
        · rw [if_pos hm]; exact ih frag.sel st' h0' hlt
        · rw [if_neg hm]; exact ⟨h0', fun x hx => hx⟩

end

end Gql
