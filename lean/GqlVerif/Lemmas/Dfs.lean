/-
  Lemmas/Dfs.lean — the depth-first marking `dfs` computes graph reachability: what it marks is
  exactly what is reachable from the roots, and with fuel above the number of nodes it never
  runs out.
-/
import GqlVerif.Lemmas.AssocList
import GqlVerif.Spec.Graph
namespace Gql
open Gql.Spec

section
variable {α : Type} [DecidableEq α]

/-- what a marking pass from `roots` guarantees about the marks before (`r`) and after (`r'`) -/
structure DfsPost (succ : α → List α) (r r' : Reach α) (roots : List α) : Prop where
  mono : ∀ z ∈ r.visited, z ∈ r'.visited
  sound : ∀ z ∈ r'.visited, z ∈ r.visited ∨ ∃ x ∈ roots, Reachable succ x z
  stuckMono : r'.stuck = false → r.stuck = false
  roots : r'.stuck = false → ∀ x ∈ roots, x ∈ r'.visited
  closed : r'.stuck = false → ∀ y ∈ r'.visited, y ∉ r.visited → ∀ w ∈ succ y, w ∈ r'.visited

omit [DecidableEq α] in
theorem DfsPost.id (succ : α → List α) (r : Reach α) : DfsPost succ r r [] where
  mono := fun _ h => h
  sound := fun _ h => Or.inl h
  stuckMono := fun h => h
  roots := fun _ _ hx => absurd hx List.not_mem_nil
  closed := fun _ _ hy hn => absurd hy hn

theorem dfs_succ (succ : α → List α) (n : Nat) (x : α) (r : Reach α) :
    dfs succ (n + 1) x r =
      if r.visited.contains x then r
      else (succ x).foldl (fun r y => dfs succ n y r) { r with visited := r.visited ++ [x] } := rfl

theorem DfsPost.comp {succ : α → List α} {r r1 r2 : Reach α} {A B : List α}
    (h1 : DfsPost succ r r1 A) (h2 : DfsPost succ r1 r2 B) : DfsPost succ r r2 (A ++ B) where
  mono := fun z hz => h2.mono z (h1.mono z hz)
  sound := fun z hz => by
    rcases h2.sound z hz with h | ⟨x, hx, hr⟩
    · rcases h1.sound z h with h | ⟨x, hx, hr⟩
      · exact Or.inl h
      · exact Or.inr ⟨x, List.mem_append_left _ hx, hr⟩
    · exact Or.inr ⟨x, List.mem_append_right _ hx, hr⟩
  stuckMono := fun h => h1.stuckMono (h2.stuckMono h)
  roots := fun h x hx => by
    rcases List.mem_append.1 hx with hx | hx
    · exact h2.mono x (h1.roots (h2.stuckMono h) x hx)
    · exact h2.roots h x hx
  closed := fun h y hy hn w hw => by
    by_cases hy1 : y ∈ r1.visited
    · exact h2.mono w (h1.closed (h2.stuckMono h) y hy1 hn w hw)
    · exact h2.closed h y hy hy1 w hw

def dfsList (succ : α → List α) (n : Nat) (ys : List α) (r : Reach α) : Reach α :=
  ys.foldl (fun r y => dfs succ n y r) r

theorem dfsList_post (succ : α → List α) (n : Nat)
    (ih : ∀ x r, DfsPost succ r (dfs succ n x r) [x]) (ys : List α) :
    ∀ r : Reach α, DfsPost succ r (dfsList succ n ys r) ys := by
  induction ys with
  | nil => exact DfsPost.id succ
  | cons y ys ihs => exact fun r => DfsPost.comp (ih y r) (ihs (dfs succ n y r))

theorem dfs_post (succ : α → List α) (n : Nat) : ∀ (x : α) (r : Reach α), DfsPost succ r (dfs succ n x r) [x] := by
  induction n with
  | zero =>
    intro x r
    have stuck : (dfs succ 0 x r).stuck ≠ false := nofun
    exact ⟨fun _ h => h, fun _ h => Or.inl h, fun h => absurd h stuck, fun h => absurd h stuck, fun h => absurd h stuck⟩
  | succ n ih =>
    intro x r
    by_cases hx : r.visited.contains x = true
    · rw [dfs_succ, if_pos hx]
      refine ⟨fun _ h => h, fun _ h => Or.inl h, fun h => h, ?_, fun _ y hy hn => absurd hy hn⟩
      intro _ z hz
      cases List.mem_singleton.1 hz
      exact List.contains_iff_mem.1 hx
    · have hx' : x ∉ r.visited := fun hm => hx (List.contains_iff_mem.2 hm)
      rw [dfs_succ, if_neg hx]
      have hf := dfsList_post succ n ih (succ x) { r with visited := r.visited ++ [x] }
      refine ⟨?_, ?_, ?_, ?_, ?_⟩
      · intro z hz; exact hf.mono z (List.mem_append_left _ hz)
      · intro z hz
        rcases hf.sound z hz with h | ⟨y, hy, hr⟩
        · rcases List.mem_append.1 h with h | h
          · exact Or.inl h
          · cases List.mem_singleton.1 h; exact Or.inr ⟨x, List.mem_singleton_self x, .refl x⟩
        · exact Or.inr ⟨x, List.mem_singleton_self x, .step hy hr⟩
      · intro h; exact hf.stuckMono h
      · intro h z hz
        cases List.mem_singleton.1 hz
        exact hf.mono x (List.mem_append_right _ (List.mem_singleton_self x))
      · intro h y hy hn w hw
        by_cases hy0 : y ∈ r.visited ++ [x]
        · rcases List.mem_append.1 hy0 with hy0 | hy0
          · exact absurd hy0 hn
          · cases List.mem_singleton.1 hy0; exact hf.roots h w hw
        · exact hf.closed h y hy hy0 w hw

theorem mem_dfsList_iff (succ : α → List α) (n : Nat) (roots : List α)
    (hns : (dfsList succ n roots {}).stuck = false) (z : α) :
    z ∈ (dfsList succ n roots {}).visited ↔ ∃ x ∈ roots, Reachable succ x z := by
  have hp := dfsList_post succ n (dfs_post succ n) roots {}
  constructor
  · intro hz
    exact (hp.sound z hz).resolve_left List.not_mem_nil
  · rintro ⟨x, hx, hr⟩
    have hx' := hp.roots hns x hx
    clear hx
    induction hr with
    | refl => exact hx'
    | step hm _ ih => exact ih (hp.closed hns _ hx' List.not_mem_nil _ hm)

def unmarked (U V : List α) : Nat := (U.filter fun u => !V.contains u).length

theorem unmarked_le_of_subset (U : List α) {V V' : List α} (h : ∀ z ∈ V, z ∈ V') : unmarked U V' ≤ unmarked U V :=
  filter_length_le U _ _ fun u hu => by
    simp only [List.contains_eq_mem, Bool.not_eq_eq_eq_not, Bool.not_true, decide_eq_false_iff_not] at hu ⊢
    exact fun hv => hu (h u hv)

theorem unmarked_lt_of (U : List α) {V V' : List α} {x : α} (hx : x ∈ U) (hv : x ∉ V)
    (hsub : ∀ z ∈ V, z ∈ V') (hx' : x ∈ V') : unmarked U V' < unmarked U V :=
  filter_length_lt U _ _
    (fun u hu => by
      simp only [List.contains_eq_mem, Bool.not_eq_eq_eq_not, Bool.not_true, decide_eq_false_iff_not] at hu ⊢
      exact fun hm => hu (hsub u hm))
    x hx (by simp [hv]) (by simp [hx'])

theorem unmarked_lt (U : List α) {V : List α} {x : α} (hx : x ∈ U) (hv : x ∉ V) :
    unmarked U (V ++ [x]) < unmarked U V :=
  unmarked_lt_of U hx hv (fun _ hz => List.mem_append_left _ hz) (List.mem_append_right _ (List.mem_singleton_self x))

theorem dfsList_not_stuck (succ : α → List α) (U : List α) (n : Nat)
    (ih : ∀ x r, x ∈ U → r.stuck = false → unmarked U r.visited < n → (dfs succ n x r).stuck = false) :
    ∀ (ys : List α) (r : Reach α), (∀ y ∈ ys, y ∈ U) → r.stuck = false → unmarked U r.visited < n →
      (dfsList succ n ys r).stuck = false := by
  intro ys
  induction ys with
  | nil => exact fun r _ hr _ => hr
  | cons y ys ihs =>
    intro r hys hr hc
    have h1 := ih y r (hys y List.mem_cons_self) hr hc
    exact ihs _ (fun z hz => hys z (List.mem_cons_of_mem _ hz)) h1
      (Nat.lt_of_le_of_lt (unmarked_le_of_subset U (dfs_post succ n y r).mono) hc)

theorem dfs_not_stuck (succ : α → List α) (U : List α) (hU : ∀ u ∈ U, ∀ w ∈ succ u, w ∈ U) :
    ∀ (n : Nat) (x : α) (r : Reach α), x ∈ U → r.stuck = false → unmarked U r.visited < n →
      (dfs succ n x r).stuck = false := by
  intro n
  induction n with
  | zero => exact fun _ _ _ _ hc => absurd hc (Nat.not_lt_zero _)
  | succ n ih =>
    intro x r hx hr hc
    by_cases hv : r.visited.contains x = true
    · rw [dfs_succ, if_pos hv]; exact hr
    · have hv' : x ∉ r.visited := fun hm => hv (List.contains_iff_mem.2 hm)
      rw [dfs_succ, if_neg hv]
      exact dfsList_not_stuck succ U n ih (succ x) _ (hU x hx) hr
        (Nat.lt_of_lt_of_le (unmarked_lt U hx hv') (Nat.le_of_lt_succ hc))

theorem dfsList_roots_not_stuck (succ : α → List α) (U : List α) (hU : ∀ u ∈ U, ∀ w ∈ succ u, w ∈ U)
    (n : Nat) (roots : List α) (hr : ∀ y ∈ roots, y ∈ U) (hn : U.length < n) :
    (dfsList succ n roots {}).stuck = false := by
  refine dfsList_not_stuck succ U n (dfs_not_stuck succ U hU n) roots {} hr rfl ?_
  have : unmarked U ([] : List α) ≤ U.length := List.length_filter_le _ _
  exact Nat.lt_of_le_of_lt this hn

end

end Gql
