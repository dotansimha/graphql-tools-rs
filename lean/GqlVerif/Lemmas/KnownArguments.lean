/-
  Lemmas/KnownArguments.lean — the `current_known_arguments` slot of known_argument_names.rs.
  Main result: the rule's report is what you get by checking, at every `enter field` /
  `enter directive` callback, that node's own arguments against that node's own declaration
  (`ka_document`).  I.e. the slot always belongs to the node whose arguments are being visited; a
  stale slot is the defect F8.
-/
import GqlVerif.Lemmas.TraverseMem
import GqlVerif.Lemmas.TraverseNodes
import GqlVerif.Lemmas.WalkStep
namespace Gql

abbrev KaAcc := KaSlot × List Err

/-- errors for the arguments `args` of a node whose declaration is `slot` -/
def kaArgErrs (slot : KaSlot) (args : List Arg) : List Err := args.flatMap (kaArgCheck slot)

/-- per-owner check: a field's / directive's own arguments against its own declaration -/
def kaOwnerCheck (s : Schema) (e : Ev × Snap) : List Err :=
  match e.1 with
  | .enter (.field f) => kaArgErrs (fieldSlot e.2.parent f) f.args
  | .enter (.directive dir) => kaArgErrs (dirSlot s dir) dir.args
  | _ => []

def kaStep (s : Schema) (acc : KaAcc) (e : Ev × Snap) : KaAcc := knownArgumentNames.step s [] acc e

theorem ka_step_eq (s : Schema) (d : Document) (acc : knownArgumentNames.σ × List Err) (e : Ev × Snap) :
    knownArgumentNames.step s d acc e = kaStep s acc e := rfl

/-- the rule acts at the callbacks of these nodes only: the two kinds of owner, and the arguments -/
def Node.kaActive : Node → Bool
  | .field _ | .directive _ | .argument _ => true
  | _ => false

abbrev KaQuiet (s : Schema) (e : Ev × Snap) : Prop := (∀ acc, kaStep s acc e = acc) ∧ kaOwnerCheck s e = []

theorem ka_quiet (s : Schema) {n : Node} (h : n.kaActive = false) (sn : Snap) :
    KaQuiet s (.enter n, sn) ∧ KaQuiet s (.leave n, sn) := by
  have hon : ∀ slot : knownArgumentNames.σ,
      knownArgumentNames.on s [] slot (.enter n, sn) = (slot, []) ∧
      knownArgumentNames.on s [] slot (.leave n, sn) = (slot, []) ∧ kaOwnerCheck s (.enter n, sn) = [] := by
    intro slot
    cases n with
    | field | directive | argument => cases h
    | _ => exact ⟨rfl, rfl, rfl⟩
  exact ⟨⟨fun acc => Rule.step_of_on (hon acc.1).1, (hon none).2.2⟩, fun acc => Rule.step_of_on (hon acc.1).2.1, rfl⟩

/-- traces that neither touch the slot nor contain owners -/
def KaNeutral (s : Schema) (t : Trace) : Prop :=
  (∀ acc : KaAcc, t.foldl (kaStep s) acc = acc) ∧ t.flatMap (kaOwnerCheck s) = []

theorem KaNeutral.of_forall {s : Schema} {t : Trace} (h : ∀ e ∈ t, KaQuiet s e) : KaNeutral s t := by
  induction t with
  | nil => exact ⟨fun _ => rfl, rfl⟩
  | cons e t ih =>
    have he := h e List.mem_cons_self
    have ht := ih fun x hx => h x (List.mem_cons_of_mem _ hx)
    exact ⟨fun acc => by rw [List.foldl_cons, he.1, ht.1], by rw [List.flatMap_cons, he.2, ht.2]; rfl⟩

theorem KaNeutral.of_events {s : Schema} {t : Trace} {l : List Ev} (ht : t.map Prod.fst = l)
    (h : ∀ ev ∈ l, ∀ sn, KaQuiet s (ev, sn)) : KaNeutral s t :=
  .of_forall fun e he => h e.1 (ht ▸ List.mem_map_of_mem he) e.2

theorem ka_atNode (s : Schema) {n : Node} (h : n.kaActive = false) :
    AtNode (fun ev => ∀ sn, KaQuiet s (ev, sn)) n :=
  ⟨fun sn => (ka_quiet s h sn).1, fun sn => (ka_quiet s h sn).2⟩

theorem ka_atValue (s : Schema) (n : Node) (h : n.isValue = true) :
    AtNode (fun ev => ∀ sn, KaQuiet s (ev, sn)) n := by
  cases n <;> first | contradiction | exact ka_atNode s rfl

theorem ka_values (s : Schema) : ∀ (e : Snap) (vs : List Value), KaNeutral s (walkValues s e vs) :=
  fun e vs => .of_events (walkValues_events s e vs) (forall_traverseValues (ka_atValue s) vs)
theorem ka_objFields (s : Schema) : ∀ (e : Snap) (fs : List (Name × Value)), KaNeutral s (walkObjFields s e fs) :=
  fun e fs => .of_events (walkObjFields_events s e fs) (forall_traverseObjFields (ka_atValue s) fs)

theorem ka_varDefs (s : Schema) (e : Snap) (vs : List VarDef) : KaNeutral s (walkVarDefs s e vs) :=
  .of_events (walkVarDefs_events s e vs) (forall_traverseVarDefs (ka_atValue s) (fun _ => ka_atNode s rfl) vs)

/-- the arguments of a node are checked against the slot as it stands; no owners inside -/
theorem ka_arguments (s : Schema) (defs : Option (List InputValueDef)) (e : Snap) (slot : KaSlot)
    (args : List Arg) : ∀ acc : List Err,
      (walkArguments s defs e args).foldl (kaStep s) (slot, acc) = (slot, acc ++ kaArgErrs slot args) ∧
      (walkArguments s defs e args).flatMap (kaOwnerCheck s) = [] := by
  induction args with
  | nil => exact fun acc => ⟨congrArg (Prod.mk slot) (List.append_nil acc).symm, rfl⟩
  | cons a as ih =>
      intro acc
      have hv : KaNeutral s (walkValue s (e.withInput s (argType defs a.1)) a.2) :=
        .of_events (walkValue_events s _ a.2) (forall_traverseValue (ka_atValue s) a.2)
      have e1 : kaStep s (slot, acc) (.enter (.argument a), e.withInput s (argType defs a.1))
          = (slot, acc ++ kaArgCheck slot a) := rfl
      have e2 : ∀ acc', kaStep s (slot, acc') (.leave (.argument a), e.withInput s (argType defs a.1))
          = (slot, acc') := fun acc' => Prod.ext rfl (List.append_nil acc')
      simp only [walkArguments, List.foldl_append, List.foldl_cons, List.foldl_nil, List.flatMap_cons,
        List.flatMap_append, List.flatMap_nil]
      rw [e1, hv.1, e2, (ih _).1, hv.2, (ih []).2, kaArgErrs, kaArgErrs, List.flatMap_cons, List.append_assoc]
      exact ⟨rfl, rfl⟩

/-- the shape of every statement below: whatever the slot holds on entry, the trace's report is
    the per-owner check of its callbacks (every owner resets the slot when it is entered, so a
    stale slot is never consulted) -/
def KaOk (s : Schema) (t : Trace) : Prop :=
  ∀ (slot : KaSlot) (acc : List Err), ∃ slot' : KaSlot,
    t.foldl (kaStep s) (slot, acc) = (slot', acc ++ t.flatMap (kaOwnerCheck s))

theorem KaOk.nil (s : Schema) : KaOk s [] := fun slot acc => ⟨slot, by simp⟩

theorem KaOk.append {s : Schema} {a b : Trace} (ha : KaOk s a) (hb : KaOk s b) : KaOk s (a ++ b) := by
  intro slot acc
  obtain ⟨s1, h1⟩ := ha slot acc
  obtain ⟨s2, h2⟩ := hb s1 (acc ++ a.flatMap (kaOwnerCheck s))
  exact ⟨s2, by rw [List.foldl_append, h1, h2, List.flatMap_append, List.append_assoc]⟩

theorem KaOk.of_neutral {s : Schema} {t : Trace} (h : KaNeutral s t) : KaOk s t :=
  fun slot acc => ⟨slot, by rw [h.1, h.2, List.append_nil]⟩

theorem KaOk.single {s : Schema} (e : Ev × Snap) (h : ∀ acc, (kaStep s acc e).2 = acc.2)
    (ho : kaOwnerCheck s e = []) : KaOk s [e] := by
  intro slot acc
  refine ⟨(kaStep s (slot, acc) e).1, ?_⟩
  have := h (slot, acc)
  simp only [List.foldl_cons, List.foldl_nil, List.flatMap_cons, List.flatMap_nil, ho, List.append_nil]
  exact Prod.ext rfl this

theorem KaOk.bracket {s : Schema} {n : Node} (h : n.kaActive = false) (sn : Snap) {t : Trace} (ht : KaOk s t) :
    KaOk s ((.enter n, sn) :: t ++ [(.leave n, sn)]) :=
  ((KaOk.single _ (fun acc => congrArg Prod.snd ((ka_quiet s h sn).1.1 acc)) (ka_quiet s h sn).1.2).append ht).append
    (KaOk.single _ (fun acc => congrArg Prod.snd ((ka_quiet s h sn).2.1 acc)) (ka_quiet s h sn).2.2)

theorem KaOk.owner {s : Schema} {e0 : Ev × Snap} (slot0 : KaSlot) {args : List Arg}
    (h : ∀ slot : knownArgumentNames.σ, knownArgumentNames.on s [] slot e0 = (slot0, []))
    (ho : kaOwnerCheck s e0 = kaArgErrs slot0 args)
    (defs : Option (List InputValueDef)) (e : Snap) : KaOk s (e0 :: walkArguments s defs e args) := by
  intro slot acc
  have ha := ka_arguments s defs e slot0 args acc
  have h0 : kaStep s (slot, acc) e0 = (slot0, acc) := Rule.step_of_on (h slot)
  exact ⟨slot0, by rw [List.foldl_cons, h0, ha.1, List.flatMap_cons, ho, ha.2, List.append_nil]⟩

theorem KaOk.leave {s : Schema} (e : Ev × Snap) (h : ∀ slot : knownArgumentNames.σ, knownArgumentNames.on s [] slot e = (none, []))
    (ho : kaOwnerCheck s e = []) : KaOk s [e] :=
  KaOk.single e (fun acc => by rw [kaStep, Rule.step_of_on (h acc.1)]) ho

theorem kaOkStep (s : Schema) : Walk.Step s (fun _ => True) (fun _ => True) (fun _ => True) (KaOk s) where
  nil := .nil s
  append := .append
  node {n _ _} hn _ := KaOk.bracket (by
    cases n with
    | spread | inline | operation | fragmentDef | document => rfl
    | _ => cases hn) _
  selSet _ _ := KaOk.bracket rfl _
  directive d _ := (KaOk.owner (e0 := (.enter (.directive d), _)) (dirSlot s d) (fun _ => rfl) rfl _ _).append
    (KaOk.leave (.leave (.directive d), _) (fun _ => rfl) rfl)
  field f _ _ _ hd hs := (((KaOk.owner (e0 := (.enter (.field f), _)) (fieldSlot _ f) (fun _ => rfl) rfl _ _).append hd).append
    hs).append (KaOk.leave (.leave (.field f), _) (fun _ => rfl) rfl)
  varDefs vs _ _ := .of_neutral (ka_varDefs s _ vs)
  withType _ _ := trivial
  withParent _ := trivial
  withField _ _ := trivial
  hered := hereditary_true

theorem ka_selection (s : Schema) : ∀ (e : Snap) (x : Selection), KaOk s (walkSelection s e x) :=
  fun e x => (kaOkStep s).sels.1 x [] e trivial trivial

/-- **the rule's report** = per-owner check of every `enter field` / `enter directive` callback -/
theorem ka_document (s : Schema) (d : Document) :
    (ruleOf .knownArgumentNames).runOn s d (walkOf s d) = (walkOf s d).flatMap (kaOwnerCheck s) := by
  have hok : KaOk s (walkOf s d) := by
    unfold walkOf
    cases h : walkDocument s Snap.empty d with
    | none => exact KaOk.nil s
    | some t => exact (kaOkStep s).document trivial d (fun _ _ => trivial) (fun _ _ _ _ => trivial) h
  obtain ⟨q, hq⟩ := hok none []
  exact (congrArg (fun r => r.2 ++ []) hq).trans (List.append_nil _)

end Gql
