/-
  Lemmas/TraverseMem.lean — which definition-level callbacks occur in a traversal:
  `enter (operation o)` / `enter (fragmentDef f)` occur exactly for the operations / fragment
  definitions of the document (never inside a selection set, directive or value), the operations
  in document order; and the callbacks of the walk are the events of the traversal (`mem_walkOf_iff`).
-/
import GqlVerif.Lemmas.Fires
import GqlVerif.Lemmas.Traverse
import GqlVerif.Lemmas.Levels
namespace Gql

def Node.isDefinitionLevel : Node → Bool
  | .document _ | .operation _ | .fragmentDef _ => true
  | _ => false

/-- all events of the list are below definition level -/
def Inner (l : List Ev) : Prop := ∀ e ∈ l, e.node.isDefinitionLevel = false

theorem Inner.append {a b : List Ev} (ha : Inner a) (hb : Inner b) : Inner (a ++ b) :=
  fun e he => (List.mem_append.1 he).elim (ha e) (hb e)

theorem Node.isDefinitionLevel_of_level {n : Node} (h : n.level ≤ 4) : n.isDefinitionLevel = false := by
  cases n <;> first | rfl | exact absurd h (of_decide_eq_false rfl)

theorem Below.inner {k : Nat} {l : List Ev} (h : Below k l) (hk : k ≤ 4) : Inner l :=
  fun e he => Node.isDefinitionLevel_of_level (Nat.le_trans (h e he) hk)

theorem inner_values : ∀ vs, Inner (traverseValues vs) := fun vs => (below_values vs).inner (by decide)
theorem inner_objFields : ∀ fs, Inner (traverseObjFields fs) := fun fs => (below_objFields fs).inner (by decide)
theorem inner_directives : ∀ ds, Inner (traverseDirectives ds) := fun ds => (below_directives ds).inner (by decide)
theorem inner_varDefs : ∀ vs, Inner (traverseVarDefs vs) := fun vs => (below_varDefs vs).inner (by decide)
theorem inner_selection : ∀ x, Inner (traverseSelection x) := fun x => (below_selection x).inner (by decide)
theorem inner_selectionSet (sel : List Selection) : Inner (traverseSelectionSet sel) :=
  (below_selectionSet sel).inner (by decide)

def defEnter : Definition → Ev
  | .op o => .enter (.operation o)
  | .frag f => .enter (.fragmentDef f)
def defLeave : Definition → Ev
  | .op o => .leave (.operation o)
  | .frag f => .leave (.fragmentDef f)

def traverseBody : Definition → List Ev
  | .op o => traverseDirectives o.dirs ++ traverseVarDefs o.vars ++ traverseSelectionSet o.sel
  | .frag f => traverseDirectives f.dirs ++ traverseSelectionSet f.sel

theorem inner_body (x : Definition) : Inner (traverseBody x) := by
  cases x with
  | op o => exact Inner.append (Inner.append (inner_directives o.dirs) (inner_varDefs o.vars)) (inner_selectionSet o.sel)
  | frag f => exact Inner.append (inner_directives f.dirs) (inner_selectionSet f.sel)

theorem traverseDefinition_eq (x : Definition) :
    traverseDefinition x = defEnter x :: (traverseBody x ++ [defLeave x]) := by
  cases x <;> simp only [traverseDefinition, defEnter, defLeave, traverseBody, List.cons_append]

theorem mem_traverseDefinitions {e : Ev} (he : e.node.isDefinitionLevel = true) :
    ∀ {ds : List Definition}, e ∈ traverseDefinitions ds ↔ ∃ x ∈ ds, e = defEnter x ∨ e = defLeave x
  | [] => by simp [traverseDefinitions]
  | x :: ds => by
      have hb : e ∉ traverseBody x := fun h => by rw [inner_body x e h] at he; cases he
      simp only [traverseDefinitions, traverseDefinition_eq, List.mem_append, List.mem_cons, hb, false_or,
        List.not_mem_nil, or_false, mem_traverseDefinitions he (ds := ds), exists_eq_or_imp]

theorem enter_operation_mem_definitions (o : Operation) (ds : List Definition) :
    Ev.enter (.operation o) ∈ traverseDefinitions ds ↔ Definition.op o ∈ ds := by
  rw [mem_traverseDefinitions rfl]
  constructor
  · rintro ⟨x, hx, h | h⟩ <;> cases x <;> cases h
    exact hx
  · exact fun h => ⟨_, h, .inl rfl⟩

theorem enter_fragmentDef_mem_definitions (f : FragDef) (ds : List Definition) :
    Ev.enter (.fragmentDef f) ∈ traverseDefinitions ds ↔ Definition.frag f ∈ ds := by
  rw [mem_traverseDefinitions rfl]
  constructor
  · rintro ⟨x, hx, h | h⟩ <;> cases x <;> cases h
    exact hx
  · exact fun h => ⟨_, h, .inl rfl⟩

theorem not_enter_document_definitions (d' : Document) (ds : List Definition) :
    Ev.enter (.document d') ∉ traverseDefinitions ds := by
  rw [mem_traverseDefinitions rfl]
  rintro ⟨x, _, h | h⟩ <;> cases x <;> cases h

theorem mem_operations_iff (d : Document) (o : Operation) : o ∈ d.operations ↔ Definition.op o ∈ d := by
  induction d with
  | nil => simp [Document.operations]
  | cons x xs ih => cases x <;> simp [Document.operations, ih]

theorem mem_fragments_iff (d : Document) (f : FragDef) : f ∈ d.fragments ↔ Definition.frag f ∈ d := by
  induction d with
  | nil => simp [Document.fragments]
  | cons x xs ih => cases x <;> simp [Document.fragments, ih]

theorem walkOf_events (s : Schema) (d : Document) (hq : s.queryType.isSome = true) :
    (walkOf s d).map Prod.fst = traverseDocument d := by
  obtain ⟨_, t, _, ht, _⟩ := walkDocument_of_queryType s d hq
  simp only [walkOf, ht, Option.getD_some]
  exact walkDocument_events s _ d t ht

theorem mem_walkOf_iff (s : Schema) (d : Document) (hq : s.queryType.isSome = true) (ev : Ev) :
    (∃ env, (ev, env) ∈ walkOf s d) ↔ ev ∈ traverseDocument d := by
  rw [← walkOf_events s d hq, List.mem_map]
  exact ⟨fun ⟨env, h⟩ => ⟨_, h, rfl⟩, fun ⟨⟨ev', env⟩, h, he⟩ => ⟨env, by cases he; exact h⟩⟩

theorem enter_mem_document {n : Node} {d : Document} :
    Ev.enter n ∈ traverseDocument d ↔ n = .document d ∨ Ev.enter n ∈ traverseDefinitions d := by
  simp [traverseDocument]

theorem enter_operation_in_walk (s : Schema) (d : Document) (hq : s.queryType.isSome = true) (o : Operation) :
    (∃ env, (Ev.enter (.operation o), env) ∈ walkOf s d) ↔ o ∈ d.operations := by
  rw [mem_walkOf_iff s d hq, mem_operations_iff, enter_mem_document, enter_operation_mem_definitions]
  exact or_iff_right (fun h => nomatch h)

theorem enter_fragmentDef_in_walk (s : Schema) (d : Document) (hq : s.queryType.isSome = true) (f : FragDef) :
    (∃ env, (Ev.enter (.fragmentDef f), env) ∈ walkOf s d) ↔ f ∈ d.fragments := by
  rw [mem_walkOf_iff s d hq, mem_fragments_iff, enter_mem_document, enter_fragmentDef_mem_definitions]
  exact or_iff_right (fun h => nomatch h)

theorem enter_document_in_walk (s : Schema) (d : Document) (hq : s.queryType.isSome = true) (d' : Document) :
    (∃ env, (Ev.enter (.document d'), env) ∈ walkOf s d) ↔ d' = d := by
  rw [mem_walkOf_iff s d hq, enter_mem_document, or_iff_left (not_enter_document_definitions d' d)]
  exact ⟨fun h => by cases h; rfl, fun h => by rw [h]⟩

def enterOp? : Ev → Option Operation
  | .enter (.operation o) => some o
  | _ => none

theorem Inner.filterMap_enterOp {l : List Ev} (h : Inner l) : l.filterMap enterOp? = [] := by
  rw [List.filterMap_eq_nil_iff]
  intro e he
  have := h e he
  cases e with
  | enter n => cases n <;> first | rfl | cases this
  | leave n => rfl

theorem filterMap_enterOp_definitions :
    ∀ ds : List Definition, (traverseDefinitions ds).filterMap enterOp? = Document.operations ds
  | [] => by simp [traverseDefinitions, Document.operations]
  | x :: ds => by
      simp only [traverseDefinitions, traverseDefinition_eq, List.filterMap_append, List.filterMap_cons,
        (inner_body x).filterMap_enterOp, filterMap_enterOp_definitions ds, List.filterMap_nil]
      cases x <;> rfl

/-- the operations are entered in document order, each once -/
theorem filterMap_enterOp_document (d : Document) : (traverseDocument d).filterMap enterOp? = d.operations := by
  simp [traverseDocument, List.filterMap_append, List.filterMap_cons, enterOp?, filterMap_enterOp_definitions]

end Gql
