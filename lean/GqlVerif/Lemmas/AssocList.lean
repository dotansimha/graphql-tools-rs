/-
  Lemmas/AssocList.lean — lookup and membership lemmas for the association-list model of `HashMap`,
  grouping a list by a key, and the length of a filtered list.
-/
import GqlVerif.Model.Rules.Basic
namespace Gql

variable {κ ν : Type} [DecidableEq κ]

@[simp] theorem alGet_nil (k : κ) : alGet ([] : List (κ × ν)) k = none := rfl

theorem alGet_cons (a : κ) (v : ν) (m : List (κ × ν)) (k : κ) :
    alGet ((a, v) :: m) k = if a = k then some v else alGet m k := by
  unfold alGet
  simp only [List.find?_cons]
  by_cases h : a = k <;> simp [h]

theorem alGet_map_update (m : List (κ × ν)) (k0 k : κ) (g : ν → ν) :
    alGet (m.map fun p => if p.1 = k0 then (k0, g p.2) else p) k
      = if k = k0 then (alGet m k0).map g else alGet m k := by
  induction m with
  | nil => simp
  | cons p ps ih =>
    obtain ⟨a, v⟩ := p
    simp only [List.map_cons]
    by_cases ha : a = k0
    · subst ha
      simp only [if_true, alGet_cons, ih]
      by_cases hk : a = k
      · subst hk; simp
      · have : ¬ k = a := fun h => hk h.symm
        simp [hk, this]
    · simp only [ha, if_false, alGet_cons, ih]
      by_cases hk : a = k
      · subst hk; simp [ha]
      · simp [hk]

theorem alGet_isSome_iff_any (m : List (κ × ν)) (k : κ) :
    (alGet m k).isSome = m.any (fun p => decide (p.1 = k)) := by
  induction m with
  | nil => simp
  | cons p ps ih =>
    obtain ⟨a, v⟩ := p
    simp only [alGet_cons, List.any_cons]
    by_cases h : a = k <;> simp [h, ih]

theorem alGet_append (m m' : List (κ × ν)) (k : κ) : alGet (m ++ m') k = (alGet m k).or (alGet m' k) := by
  unfold alGet
  rw [List.find?_append, Option.map_or]

theorem alGet_alUpdate (m : List (κ × ν)) (k0 k : κ) (dflt : ν) (f : ν → ν) :
    alGet (alUpdate m k0 dflt f) k = if k = k0 then some (f ((alGet m k0).getD dflt)) else alGet m k := by
  unfold alUpdate
  rw [← alGet_isSome_iff_any]
  cases hg : alGet m k0 with
  | some x =>
    rw [if_pos Option.isSome_some, alGet_map_update, hg]
    rfl
  | none =>
    rw [if_neg Bool.noConfusion, alGet_append, alGet_cons]
    by_cases hk : k = k0
    · subst hk; rw [hg, if_pos rfl, if_pos rfl]; rfl
    · rw [if_neg hk, if_neg (Ne.symm hk)]; exact Option.or_none

theorem alInsert_eq_alUpdate (m : List (κ × ν)) (k : κ) (v : ν) : alInsert m k v = alUpdate m k v fun _ => v := rfl

theorem alGet_alInsert (m : List (κ × ν)) (k0 k : κ) (v : ν) :
    alGet (alInsert m k0 v) k = if k = k0 then some v else alGet m k :=
  alGet_alUpdate m k0 k v fun _ => v

/-- list-valued tables, as `entry(k0).or_default().extend(xs)` leaves them -/
theorem alGet_getD_alUpdate (m : List (κ × List ν)) (k0 k : κ) (xs : List ν) :
    (alGet (alUpdate m k0 [] (· ++ xs)) k).getD [] = (alGet m k).getD [] ++ (if k = k0 then xs else []) := by
  rw [alGet_alUpdate]
  by_cases h : k = k0
  · subst h; rw [if_pos rfl, if_pos rfl, Option.getD_some]
  · rw [if_neg h, if_neg h, List.append_nil]

theorem alGet_getD_subset (m : List (κ × List ν)) (k : κ) {w : ν} (hw : w ∈ (alGet m k).getD []) :
    w ∈ m.flatMap (·.2) := by
  cases hg : alGet m k with
  | none => rw [hg] at hw; exact absurd hw List.not_mem_nil
  | some v =>
    rw [hg] at hw
    obtain ⟨p, hp, rfl⟩ := Option.map_eq_some_iff.1 hg
    exact List.mem_flatMap.2 ⟨p, List.mem_of_find?_eq_some hp, hw⟩

theorem alUpdate_last (pre : List (κ × ν)) (k : κ) (v d : ν) (f : ν → ν)
    (h : ∀ p ∈ pre, p.1 ≠ k) : alUpdate (pre ++ [(k, v)]) k d f = pre ++ [(k, f v)] := by
  have hany : (pre ++ [(k, v)]).any (fun p => decide (p.1 = k)) = true := by simp
  have hpre : pre.map (fun p => if p.1 = k then (k, f p.2) else p) = pre :=
    (List.map_congr_left fun p hp => if_neg (h p hp)).trans (List.map_id' pre)
  simp only [alUpdate, hany, if_true, List.map_append, List.map_cons, List.map_nil, hpre]

def alKeys (m : List (κ × ν)) : List κ := m.map (·.1)

theorem any_key_iff_mem (m : List (κ × ν)) (k : κ) :
    m.any (fun p => decide (p.1 = k)) = true ↔ k ∈ alKeys m := by
  simp only [alKeys, List.any_eq_true, decide_eq_true_eq, List.mem_map]

theorem alGet_eq_none_iff (m : List (κ × ν)) (k : κ) : alGet m k = none ↔ k ∉ alKeys m := by
  rw [← any_key_iff_mem, ← alGet_isSome_iff_any, Option.isSome_iff_ne_none, Classical.not_not]

theorem alKeys_alUpdate (m : List (κ × ν)) (k : κ) (dflt : ν) (f : ν → ν) :
    alKeys (alUpdate m k dflt f) = if k ∈ alKeys m then alKeys m else alKeys m ++ [k] := by
  unfold alUpdate
  by_cases h : m.any (fun p => decide (p.1 = k)) = true
  · rw [if_pos h, if_pos ((any_key_iff_mem m k).1 h)]
    unfold alKeys
    rw [List.map_map]
    refine List.map_congr_left fun p _ => ?_
    show (if p.1 = k then (k, f p.2) else p).1 = p.1
    split
    · next hk => exact hk.symm
    · rfl
  · rw [if_neg h, if_neg fun hm => h ((any_key_iff_mem m k).2 hm)]
    exact List.map_append

theorem mem_alKeys_alUpdate (m : List (κ × ν)) (k x : κ) (dflt : ν) (f : ν → ν) :
    x ∈ alKeys (alUpdate m k dflt f) ↔ x ∈ alKeys m ∨ k = x := by
  rw [alKeys_alUpdate]
  by_cases h : k ∈ alKeys m
  · rw [if_pos h]; exact ⟨Or.inl, fun hx => hx.elim id fun e => e ▸ h⟩
  · rw [if_neg h, List.mem_append, List.mem_singleton, eq_comm]

theorem nodup_alKeys_alUpdate {m : List (κ × ν)} (hn : (alKeys m).Nodup) (k : κ) (dflt : ν) (f : ν → ν) :
    (alKeys (alUpdate m k dflt f)).Nodup := by
  rw [alKeys_alUpdate]
  by_cases h : k ∈ alKeys m
  · rw [if_pos h]; exact hn
  · rw [if_neg h]
    exact List.nodup_append.2 ⟨hn, by simp, fun a ha b hb e => h (List.mem_singleton.1 hb ▸ e ▸ ha)⟩

theorem mem_alUpdate {m : List (κ × ν)} {k : κ} {dflt : ν} {f : ν → ν} {e : κ × ν} :
    e ∈ alUpdate m k dflt f ↔
      (e ∈ m ∧ e.1 ≠ k) ∨ (∃ v, (k, v) ∈ m ∧ e = (k, f v)) ∨ (k ∉ alKeys m ∧ e = (k, f dflt)) := by
  unfold alUpdate
  by_cases h : m.any (fun p => decide (p.1 = k)) = true
  · have hk := (any_key_iff_mem m k).1 h
    rw [if_pos h, List.mem_map]
    constructor
    · rintro ⟨⟨a, v⟩, hp, rfl⟩
      by_cases hak : a = k
      · rw [if_pos hak]; exact Or.inr (Or.inl ⟨v, hak ▸ hp, rfl⟩)
      · rw [if_neg hak]; exact Or.inl ⟨hp, hak⟩
    · rintro (⟨he, hne⟩ | ⟨v, hv, rfl⟩ | ⟨hnk, _⟩)
      · exact ⟨e, he, if_neg hne⟩
      · exact ⟨(k, v), hv, if_pos rfl⟩
      · exact absurd hk hnk
  · have hk : k ∉ alKeys m := fun hm => h ((any_key_iff_mem m k).2 hm)
    rw [if_neg h, List.mem_append, List.mem_singleton]
    constructor
    · rintro (he | rfl)
      · exact Or.inl ⟨he, fun hek => hk (List.mem_map.2 ⟨e, he, hek⟩)⟩
      · exact Or.inr (Or.inr ⟨hk, rfl⟩)
    · rintro (⟨he, _⟩ | ⟨v, hv, _⟩ | ⟨_, rfl⟩)
      · exact Or.inl he
      · exact absurd (List.mem_map.2 ⟨(k, v), hv, rfl⟩) hk
      · exact Or.inr rfl

theorem alGet_of_mem (m : List (κ × ν)) (hn : (alKeys m).Nodup) (k : κ) (v : ν) (h : (k, v) ∈ m) :
    alGet m k = some v := by
  induction m with
  | nil => exact absurd h List.not_mem_nil
  | cons p ps ih =>
    obtain ⟨a, w⟩ := p
    rw [alKeys, List.map_cons, List.nodup_cons] at hn
    rw [alGet_cons]
    rcases List.mem_cons.1 h with e | h
    · cases e; exact if_pos rfl
    · exact (if_neg fun hak => hn.1 (List.mem_map.2 ⟨(k, v), h, hak.symm⟩)).trans (ih hn.2 h)

section
variable {α : Type} (key : α → κ)

/-- `map.entry(key(a)).or_default().push(a)` for every member `a` of `l`, in order -/
def alGroup (m : List (κ × List α)) (l : List α) : List (κ × List α) :=
  l.foldl (fun m a => alUpdate m (key a) [] (· ++ [a])) m

theorem nodup_alKeys_alGroup (l : List α) : ∀ {m : List (κ × List α)}, (alKeys m).Nodup →
    (alKeys (alGroup key m l)).Nodup := by
  induction l with
  | nil => exact fun h => h
  | cons a l ih => exact fun h => ih (nodup_alKeys_alUpdate h (key a) [] _)

theorem mem_alKeys_alGroup (k : κ) (l : List α) : ∀ m : List (κ × List α),
    k ∈ alKeys (alGroup key m l) ↔ k ∈ alKeys m ∨ ∃ a ∈ l, key a = k := by
  induction l with
  | nil => exact fun m => ⟨Or.inl, fun h => h.elim id fun ⟨_, ha, _⟩ => absurd ha List.not_mem_nil⟩
  | cons a l ih =>
    intro m
    rw [alGroup, List.foldl_cons, ← alGroup, ih, mem_alKeys_alUpdate, or_assoc]
    simp only [List.mem_cons, exists_eq_or_imp]

theorem alGet_alGroup (k : κ) (l : List α) : ∀ m : List (κ × List α),
    (alGet (alGroup key m l) k).getD [] = (alGet m k).getD [] ++ l.filter (fun a => key a = k) := by
  induction l with
  | nil => exact fun m => (List.append_nil _).symm
  | cons a l ih =>
    intro m
    rw [alGroup, List.foldl_cons, ← alGroup, ih, alGet_alUpdate, List.filter_cons]
    by_cases hk : k = key a
    · subst hk
      rw [if_pos rfl, if_pos (decide_eq_true rfl), Option.getD_some, List.append_assoc]
      rfl
    · rw [if_neg hk, if_neg fun h => hk (of_decide_eq_true h).symm]

theorem mem_alGroup_nil {l : List α} {k : κ} {v : List α} :
    (k, v) ∈ alGroup key [] l ↔ (∃ a ∈ l, key a = k) ∧ v = l.filter (fun a => key a = k) := by
  have hkeys := mem_alKeys_alGroup key k l []
  have hval : ∀ {v}, (k, v) ∈ alGroup key [] l → v = l.filter (fun a => key a = k) := fun {v} h => by
    have hg := alGet_alGroup key k l []
    rw [alGet_of_mem _ (nodup_alKeys_alGroup key l (m := []) List.nodup_nil) k v h] at hg
    exact hg
  constructor
  · intro h
    exact ⟨(hkeys.1 (List.mem_map.2 ⟨_, h, rfl⟩)).resolve_left List.not_mem_nil, hval h⟩
  · rintro ⟨hk, rfl⟩
    obtain ⟨⟨k', v'⟩, hp, rfl⟩ := List.mem_map.1 (hkeys.2 (Or.inr hk))
    exact hval hp ▸ hp

end

theorem filter_notContains_ne_nil {α : Type} [BEq α] [LawfulBEq α] (l m : List α) :
    (l.filter fun v => !m.contains v) ≠ [] ↔ ∃ v ∈ l, v ∉ m := by
  simp only [ne_eq, List.filter_eq_nil_iff, Bool.not_eq_true', List.contains_eq_mem, decide_eq_false_iff_not,
    Classical.not_forall, Classical.not_not, exists_prop]

theorem filter_length_le {α : Type} (l : List α) (p q : α → Bool) (hpq : ∀ x, q x = true → p x = true) :
    (l.filter q).length ≤ (l.filter p).length := by
  rw [← List.countP_eq_length_filter, ← List.countP_eq_length_filter]
  exact List.countP_mono_left fun x _ => hpq x

theorem filter_length_lt {α : Type} (l : List α) (p q : α → Bool) (hpq : ∀ x, q x = true → p x = true)
    (x : α) (hx : x ∈ l) (hp : p x = true) (hq : q x = false) :
    (l.filter q).length < (l.filter p).length := by
  obtain ⟨l1, l2, rfl⟩ := List.append_of_mem hx
  have h1 := filter_length_le l1 p q hpq
  have h2 := filter_length_le l2 p q hpq
  simp only [List.filter_append, List.filter_cons, hp, hq, if_true, Bool.false_eq_true, if_false,
    List.length_append, List.length_cons]
  omega

theorem nodup_length_gt_one {α : Type} (l : List α) (hn : l.Nodup) :
    1 < l.length ↔ ∃ a ∈ l, ∃ b ∈ l, a ≠ b := by
  cases l with
  | nil =>
    refine ⟨fun h => absurd h (Nat.not_lt_zero 1), ?_⟩
    rintro ⟨_, ha, _⟩
    exact absurd ha List.not_mem_nil
  | cons x xs =>
    cases xs with
    | nil =>
      refine ⟨fun h => absurd h (Nat.lt_irrefl 1), ?_⟩
      rintro ⟨a, ha, b, hb, hab⟩
      exact absurd ((List.mem_singleton.1 ha).trans (List.mem_singleton.1 hb).symm) hab
    | cons y ys =>
      refine ⟨fun _ => ⟨x, List.mem_cons_self, y, List.mem_cons_of_mem _ List.mem_cons_self, fun hxy => ?_⟩,
        fun _ => Nat.succ_lt_succ (Nat.succ_pos _)⟩
      exact (List.nodup_cons.1 hn).1 (hxy ▸ List.mem_cons_self)

end Gql
