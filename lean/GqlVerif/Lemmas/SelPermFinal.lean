/-
  Lemmas/SelPermFinal.lean — reordering selections is an instance of `DocSim` (Thm/C14.lean); the
  hypotheses of `merge_iff_acyclic` are unaffected by it, and `MergeViolated` is invariant under it.
-/
import GqlVerif.Lemmas.SelPermWalk
import GqlVerif.Thm.C14
namespace Gql
open Gql.Spec

theorem docRel_forall {P : List Selection → Prop} (hP : ∀ a b, SelsEq a b → P a → P b) {d d' : Document} (h : DocRel d d')
    (hd : ∀ x ∈ d, P x.selections) : ∀ x ∈ d', P x.selections := by
  intro y hy
  obtain ⟨x, hx, hr⟩ := h.symm.mem y hy
  exact hP _ _ hr.selections.symm (hd x hx)

theorem aoDoc_rel {d d' : Document} (h : DocRel d d') (hd : AODoc d) : AODoc d' :=
  docRel_forall (P := aoSels) (fun _ _ hs ha => (aoSels_rel hs).1 ha) h hd

theorem tcKnownSels_rel (s : Schema) {a b : List Selection} (h : SelsEq a b) : tcKnownSels s a = tcKnownSels s b := by
  induction h with
  | refl l => rfl
  | swap x y l => simp only [tcKnownSels, Bool.and_left_comm]
  | cons x _ ih => simp only [tcKnownSels, ih]
  | field pos alias name args dirs l _ ih | inline pos tc dirs l _ ih => simp only [tcKnownSels, tcKnownSel, ih]
  | trans _ _ ih1 ih2 => exact ih1.trans ih2

theorem tcKnown_rel (s : Schema) {d d' : Document} (h : DocRel d d') (ht : TcKnown s d) : TcKnown s d' :=
  docRel_forall (P := fun sel => tcKnownSels s sel = true) (fun _ _ hs ha => by rw [← tcKnownSels_rel s hs]; exact ha) h ht

theorem DocRel.docSim {d d' : Document} (h : DocRel d d') : C14.DocSim d d' where
  defs := h.mem.mono fun _ _ => .of_defRel
  defs' := h.symm.mem.mono fun _ _ hx => (C14.DefSim.of_defRel hx).symm
  fragByName := fragLook h
  fragNames := .of_eq (fragNames_rel h)

theorem fragmentCycle_rel {d d' : Document} (h : DocRel d d') (hc : FragmentCycle d) : FragmentCycle d' :=
  h.docSim.fragmentCycle hc

theorem mergeViolated_selrel_mp (s : Schema) (hq : s.queryType.isSome = true) {d d' : Document} (h : DocRel d d') (hd : AODoc d)
    (hv : MergeViolated s d) : MergeViolated s d' := by
  obtain ⟨sel, env, hm, hf⟩ := hv
  obtain ⟨sel', hs, hm'⟩ := selset_doc_rel s hq h sel env hm
  refine ⟨sel', env, hm', ?_⟩
  have hlen := fragments_length_rel h
  have hsf : spreadFuelOf d' = spreadFuelOf d := by unfold spreadFuelOf; rw [hlen]
  have hnf : nestFuelOf d' = nestFuelOf d := by unfold nestFuelOf; rw [hlen, docDepth_rel h]
  rw [hsf, hnf]
  have hl : LRel (specFields s d (spreadFuelOf d) env.parent sel) (specFields s d' (spreadFuelOf d) env.parent sel') :=
    specFieldsWith_rel s hs _ _ (spreadFields_rel s h _) _
  have hg : ∀ a ∈ specFields s d (spreadFuelOf d) env.parent sel, GA a :=
    specSels_good s _ (spread_good s d hd _) sel _ (aoSels_of_walk s d hd sel env hm)
  rw [← cm_rel s h hd _ _ hl hg]
  exact hf

theorem mergeViolated_selrel (s : Schema) (hq : s.queryType.isSome = true) {d d' : Document} (h : DocRel d d') (hd : AODoc d) :
    MergeViolated s d ↔ MergeViolated s d' :=
  ⟨mergeViolated_selrel_mp s hq h hd, mergeViolated_selrel_mp s hq h.symm (aoDoc_rel h hd)⟩

end Gql
