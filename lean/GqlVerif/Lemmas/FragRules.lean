/-
  Lemmas/FragRules.lean — no_fragments_cycle.rs and no_unused_fragments.rs as folds over the
  graph events of the document.
-/
import GqlVerif.Lemmas.Cycle
import GqlVerif.Lemmas.GraphEvents
import GqlVerif.Lemmas.RuleFold
namespace Gql
open Gql.Spec

abbrev CycAcc := CycleState × List Err

def cycG (d : Document) (acc : CycAcc) : GEv → CycAcc
  | .enterFrag f =>
    let st' := detectCycles d (d.fragments.length + 1) f [] [] { acc.1 with errs := [] }
    (st', acc.2 ++ st'.errs)
  | _ => acc

theorem cycG_eq (d : Document) : stepOf (fun st => cycG d (st, [])) = cycG d := by
  funext acc b
  cases b <;> simp [stepOf, cycG]

theorem cyc_runOn (s : Schema) (d : Document) (tr : Trace) :
    noFragmentsCycle.runOn s d tr = (((tr.map Prod.fst).filterMap gev).foldl (cycG d) ({}, [])).2 := by
  rw [Rule.runOn_proj noFragmentsCycle s d gev fun st => cycG d (st, [])]
  · show (List.foldl (stepOf fun st => cycG d (st, [])) (({} : CycleState), ([] : List Err)) _).2 ++ [] = _
    rw [cycG_eq, List.append_nil]
  · intro st ⟨ev, sn⟩
    cases ev with
    | enter n => cases n <;> exact rfl
    | leave n => cases n <;> exact rfl

theorem cycG_spreads (d : Document) (acc : CycAcc) (sps : List SpreadNode) :
    (sps.map GEv.spread).foldl (cycG d) acc = acc := by
  induction sps generalizing acc with
  | nil => rfl
  | cons sp sps ih => simp only [List.map_cons, List.foldl_cons, cycG]; exact ih acc

theorem cycG_def (d : Document) (acc : CycAcc) : ∀ x : Definition,
    (defGEvs x).foldl (cycG d) acc = (match x with | .frag f => cycG d acc (.enterFrag f) | .op _ => acc)
  | .frag f => by
      simp only [defGEvs, List.cons_append, List.foldl_cons, List.foldl_append, cycG_spreads, List.foldl_nil]
      rfl
  | .op o => by simp only [defGEvs, cycG_spreads]

theorem stackOk_nil : StackOk ([] : List (Name × Nat)) [] := by
  intro k; simp

theorem cyc_run (d : Document) (hn : (d.fragments.map (·.name)).Nodup) :
    ∀ (ds : List Definition) (acc : CycAcc), (∀ x ∈ ds, x ∈ d) → acc.1.stuck = false →
      let acc' := (ds.flatMap defGEvs).foldl (cycG d) acc
      acc'.1.stuck = false ∧ (∀ z ∈ acc.1.visited, z ∈ acc'.1.visited) ∧
      ∃ new, acc'.2 = acc.2 ++ new ∧ (new ≠ [] → FragmentCycle d) ∧
        (new = [] → Good d acc.1.visited [] →
          Good d acc'.1.visited [] ∧ ∀ f, Definition.frag f ∈ ds → f.name ∈ acc'.1.visited) := by
  intro ds
  induction ds with
  | nil => exact fun acc _ hst => ⟨hst, fun _ h => h, Reports.refl fun hg => ⟨hg, fun _ hf => absurd hf List.not_mem_nil⟩⟩
  | cons x ds ih =>
    intro acc hds hst
    have hds' : ∀ x ∈ ds, x ∈ d := fun x hx => hds x (List.mem_cons_of_mem _ hx)
    rw [List.flatMap_cons, List.foldl_append, cycG_def]
    cases x with
    | op o =>
      obtain ⟨h1, h2, hr⟩ := ih acc hds' hst
      exact ⟨h1, h2, Reports.mono hr fun h hgood => ⟨(h hgood).1, fun f hf => (h hgood).2 f ((List.mem_cons.1 hf).resolve_left nofun)⟩⟩
    | frag f =>
      have hf : f ∈ d.fragments := (mem_fragments_iff d f).2 (hds _ List.mem_cons_self)
      have hum : unmarked (fragUniverse d) acc.1.visited < d.fragments.length + 1 :=
        Nat.lt_succ_of_le (Nat.le_trans (List.length_filter_le _ _) (Nat.le_of_eq (List.length_map _)))
      obtain ⟨hm1, hs1, hin1, hr1⟩ := detect_spec d hn (d.fragments.length + 1) f [] [] { acc.1 with errs := [] } []
        hf stackOk_nil List.not_mem_nil (fun _ h => absurd h List.not_mem_nil) (fun _ h => absurd h List.not_mem_nil) hst hum
      obtain ⟨hs2, hm2, hr2⟩ := ih (cycG d acc (.enterFrag f)) hds' hs1
      -- the call starts from an empty error list and what it reports is appended to the rule's
      have hr1' : Reports d acc.2 (cycG d acc (.enterFrag f)).2
          (Good d acc.1.visited [] → Good d (cycG d acc (.enterFrag f)).1.visited []) := by
        obtain ⟨new, he, hc, hk⟩ := hr1
        exact ⟨new, by simp only [cycG]; rw [he]; rfl, hc, hk⟩
      refine ⟨hs2, fun z hz => hm2 z (hm1 z hz), Reports.mono (Reports.trans hr1' hr2) fun h hgood => ⟨(h.2 (h.1 hgood)).1, fun f' hf' => ?_⟩⟩
      rcases List.mem_cons.1 hf' with h' | hf'
      · cases h'
        exact hm2 _ hin1
      · exact (h.2 (h.1 hgood)).2 f' hf'

/-- **no_fragments_cycle reports iff the spread graph has a cycle** (on the graph events) -/
theorem cyc_document (d : Document) (hn : (d.fragments.map (·.name)).Nodup) :
    ((d.flatMap defGEvs ++ [GEv.leaveDoc]).foldl (cycG d) (({} : CycleState), ([] : List Err))).2 ≠ [] ↔ FragmentCycle d := by
  rw [List.foldl_append]
  simp only [List.foldl_cons, List.foldl_nil, cycG]
  obtain ⟨_, _, new, he, hc, hg⟩ := cyc_run d hn d ({}, []) (fun _ h => h) rfl
  simp only [List.nil_append] at he
  rw [he]
  constructor
  · exact hc
  · rintro ⟨a, b, hb, hr⟩ hnil
    obtain ⟨hgood, hall⟩ := hg hnil fun v hv => absurd hv List.not_mem_nil
    have hdef := defined_of_edge d hb
    obtain ⟨fa, hfa⟩ := Option.isSome_iff_exists.1 hdef
    obtain ⟨hfm, hfn⟩ := fragByName_some_mem d hfa
    have hav := hall fa ((mem_fragments_iff d fa).1 hfm)
    rw [hfn] at hav
    exact (hgood a hav List.not_mem_nil).2 ⟨b, hb, hr⟩

def nufG (st : UnusedState) : GEv → UnusedState
  | .enterFrag f => { st with cur := some f.name }
  | .leaveFrag => { st with cur := none }
  | .spread sp =>
    (match st.cur with
     | some f => { st with fragSpreads := alUpdate st.fragSpreads f [] (· ++ [sp.name]) }
     | none => { st with opSpreads := st.opSpreads ++ [sp.name] })
  | .leaveDoc => st

def nufReport (d : Document) (st : UnusedState) : List Err :=
  (d.fragNames.filter fun n => !st.used.visited.contains n).map fun n =>
    ⟨.noUnusedFragments, [], .unusedFragment n⟩

theorem unusedNames_ne_nil {α : Type} (g : α → Name) (l : List α) {used : List Name} {P : Name → Prop}
    (hused : ∀ n, n ∈ used ↔ P n) :
    ((l.map g).eraseDups.filter fun n => !used.contains n) ≠ [] ↔ ∃ x ∈ l, ¬ P (g x) := by
  rw [filter_notContains_ne_nil]
  constructor
  · rintro ⟨n, hn, hnot⟩
    obtain ⟨x, hx, rfl⟩ := List.mem_map.1 (List.mem_eraseDups.1 hn)
    exact ⟨x, hx, fun hu => hnot ((hused _).2 hu)⟩
  · rintro ⟨x, hx, hu⟩
    exact ⟨g x, List.mem_eraseDups.2 (List.mem_map_of_mem hx), fun h => hu ((hused _).1 h)⟩

def nufOn (d : Document) (st : UnusedState) (b : GEv) : UnusedState × List Err :=
  (nufG st b, match b with | .leaveDoc => nufReport d st | _ => [])

theorem nuf_runOn (s : Schema) (d : Document) (hq : s.queryType.isSome = true) :
    noUnusedFragments.runOn s d (walkOf s d) = nufReport d ((d.flatMap defGEvs).foldl nufG {}) := by
  rw [Rule.runOn_proj noUnusedFragments s d gev (nufOn d), walkOf_events s d hq, gev_document]
  · show (List.foldl (stepOf (nufOn d)) (({} : UnusedState), ([] : List Err)) _).2 ++ [] = _
    rw [List.foldl_append, foldl_stepOf_quiet (nufOn d) (d.flatMap defGEvs)]
    · simp only [List.foldl_cons, List.foldl_nil, stepOf, nufOn, List.nil_append, List.append_nil]
    · intro st b hb
      obtain ⟨x, _, hx⟩ := List.mem_flatMap.1 hb
      cases b with
      | leaveDoc => cases x <;> simp [defGEvs] at hx
      | _ => rfl
  · intro st ⟨ev, sn⟩
    cases ev with
    | enter n =>
      cases n with
      | spread sp =>
        show (match st.cur with | some f => _ | none => _) = (nufG st (.spread sp), [])
        simp only [nufG]
        cases st.cur <;> rfl
      | _ => exact rfl
    | leave n => cases n <;> exact rfl

theorem nufG_spreads_op (sps : List SpreadNode) : ∀ st : UnusedState, st.cur = none →
    let st' := (sps.map GEv.spread).foldl nufG st
    st'.cur = none ∧ st'.opSpreads = st.opSpreads ++ sps.map (·.name) ∧ st'.fragSpreads = st.fragSpreads := by
  induction sps with
  | nil => exact fun st h => ⟨h, (List.append_nil _).symm, rfl⟩
  | cons sp sps ih =>
    intro st h
    have h1 : nufG st (.spread sp) = { st with opSpreads := st.opSpreads ++ [sp.name] } := by simp only [nufG, h]
    obtain ⟨a, b, c⟩ := ih { st with opSpreads := st.opSpreads ++ [sp.name] } h
    simp only [List.map_cons, List.foldl_cons, h1]
    exact ⟨a, by rw [b, List.append_assoc]; rfl, c⟩

theorem nufG_spreads_frag (f : Name) (sps : List SpreadNode) : ∀ st : UnusedState, st.cur = some f →
    let st' := (sps.map GEv.spread).foldl nufG st
    st'.cur = some f ∧ st'.opSpreads = st.opSpreads ∧
    ∀ n, fragSucc st'.fragSpreads n = fragSucc st.fragSpreads n ++ (if n = f then sps.map (·.name) else []) := by
  induction sps with
  | nil => exact fun st h => ⟨h, rfl, fun n => by simp⟩
  | cons sp sps ih =>
    intro st h
    have h1 : nufG st (.spread sp) = { st with fragSpreads := alUpdate st.fragSpreads f [] (· ++ [sp.name]) } := by
      simp only [nufG, h]
    obtain ⟨a, b, c⟩ := ih { st with fragSpreads := alUpdate st.fragSpreads f [] (· ++ [sp.name]) } h
    simp only [List.map_cons, List.foldl_cons, h1]
    refine ⟨a, b, fun n => ?_⟩
    rw [c n]
    show (alGet (alUpdate st.fragSpreads f [] (· ++ [sp.name])) n).getD [] ++ _ = _
    rw [alGet_getD_alUpdate]
    by_cases hn : n = f <;> simp [hn, fragSucc]

theorem nufG_defs (ds : List Definition) : ∀ st : UnusedState, st.cur = none →
    let st' := (ds.flatMap defGEvs).foldl nufG st
    st'.cur = none ∧
    st'.opSpreads = st.opSpreads ++ (Document.operations ds).flatMap (fun o => (recursiveSpreads o.sel).map (·.name)) ∧
    ∀ n, fragSucc st'.fragSpreads n = fragSucc st.fragSpreads n ++ spreadsOf ds n := by
  induction ds with
  | nil => exact fun st h => ⟨h, (List.append_nil _).symm, fun n => (List.append_nil _).symm⟩
  | cons x ds ih =>
    intro st h
    cases x with
    | op o =>
      obtain ⟨a, b, c⟩ := nufG_spreads_op (recursiveSpreads o.sel) st h
      obtain ⟨a', b', c'⟩ := ih _ a
      rw [List.flatMap_cons, List.foldl_append]
      refine ⟨a', b'.trans ?_, fun n => (c' n).trans ?_⟩
      · rw [b, List.append_assoc]; rfl
      · rw [c]; rfl
    | frag f =>
      obtain ⟨_, b, c⟩ := nufG_spreads_frag f.name (recursiveSpreads f.sel) (nufG st (.enterFrag f)) rfl
      obtain ⟨a', b', c'⟩ := ih
        (nufG ((List.map GEv.spread (recursiveSpreads f.sel)).foldl nufG (nufG st (.enterFrag f))) .leaveFrag) rfl
      simp only [List.flatMap_cons, List.foldl_append, defGEvs, List.cons_append, List.foldl_cons, List.foldl_nil]
      refine ⟨a', b'.trans ?_, fun n => ?_⟩
      · show (List.foldl nufG (nufG st (.enterFrag f)) _).opSpreads ++ _ = _
        rw [b]; rfl
      refine (c' n).trans ?_
      show fragSucc (List.foldl nufG (nufG st (.enterFrag f)) (List.map GEv.spread (recursiveSpreads f.sel))).fragSpreads n ++ _ = _
      rw [c n, List.append_assoc]
      show fragSucc st.fragSpreads n ++ _ = _ ++ spreadsOf (.frag f :: ds) n
      simp only [spreadsOf, Document.fragments, List.filter_cons, beq_iff_eq]
      by_cases hn : f.name = n
      · simp [hn]
      · have hn' : ¬ n = f.name := fun h => hn h.symm
        simp [hn, hn']

end Gql
