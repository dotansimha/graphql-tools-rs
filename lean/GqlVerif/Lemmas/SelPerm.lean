/-
  Lemmas/SelPerm.lean — lists of selections that differ only in the ORDER of the selections, at any
  depth (`SelsEq`: fields, fragment spreads and inline fragments permuted within the set they belong
  to), and what the specification's FieldsInSetCanMerge collects from them: the same fields up to
  order and up to the same reordering inside their own sub-selections (`ARel`, `LRel`,
  `specFieldsWith_rel`); `allPairs` of a test that respects this is invariant (`allPairs_rel`).
  The relation on documents and the tests themselves are in Lemmas/SelPermSpec.lean.
-/
import GqlVerif.Thm.C05c
namespace Gql
open Gql.Spec

/-- the two lists of selections are equal up to the order of selections, at every depth -/
inductive SelsEq : List Selection → List Selection → Prop
  | refl (l : List Selection) : SelsEq l l
  | swap (x y : Selection) (l : List Selection) : SelsEq (x :: y :: l) (y :: x :: l)
  | cons (x : Selection) {xs ys : List Selection} : SelsEq xs ys → SelsEq (x :: xs) (x :: ys)
  | field (pos : Pos) (alias : Option Name) (name : Name) (args : List Arg) (dirs : List Directive) {sel sel' : List Selection}
      (l : List Selection) : SelsEq sel sel' →
      SelsEq (.field pos alias name args dirs sel :: l) (.field pos alias name args dirs sel' :: l)
  | inline (pos : Pos) (tc : Option Name) (dirs : List Directive) {sel sel' : List Selection} (l : List Selection) :
      SelsEq sel sel' → SelsEq (.inline pos tc dirs sel :: l) (.inline pos tc dirs sel' :: l)
  | trans {a b c : List Selection} : SelsEq a b → SelsEq b c → SelsEq a c

theorem SelsEq.symm {a b : List Selection} (h : SelsEq a b) : SelsEq b a := by
  induction h with
  | refl l => exact .refl l
  | swap x y l => exact .swap y x l
  | cons x _ ih => exact .cons x ih
  | field pos alias name args dirs l _ ih => exact .field pos alias name args dirs l ih
  | inline pos tc dirs l _ ih => exact .inline pos tc dirs l ih
  | trans _ _ ih1 ih2 => exact .trans ih2 ih1

def Cover {α : Type} (R : α → α → Prop) (l l' : List α) : Prop := ∀ x ∈ l, ∃ y ∈ l', R x y

namespace Cover
variable {α : Type} {R : α → α → Prop}

theorem of_perm (hR : ∀ x, R x x) {l l' : List α} (h : l.Perm l') : Cover R l l' :=
  fun x hx => ⟨x, h.mem_iff.1 hx, hR x⟩

theorem refl (hR : ∀ x, R x x) (l : List α) : Cover R l l := of_perm hR (.refl l)

theorem trans {a b c : List α} (h1 : Cover R a b) (hR : ∀ {x y z}, R x y → R y z → R x z) (h2 : Cover R b c) : Cover R a c := by
  intro x hx
  obtain ⟨y, hy, r1⟩ := h1 x hx
  obtain ⟨z, hz, r2⟩ := h2 y hy
  exact ⟨z, hz, hR r1 r2⟩

theorem mono {S : α → α → Prop} {l l' : List α} (h : Cover R l l') (hRS : ∀ x y, R x y → S x y) : Cover S l l' :=
  fun x hx => (h x hx).imp fun y hy => ⟨hy.1, hRS x y hy.2⟩

theorem append {a a' b b' : List α} (h1 : Cover R a a') (h2 : Cover R b b') : Cover R (a ++ b) (a' ++ b') := by
  intro x hx
  rcases List.mem_append.1 hx with hx | hx
  · obtain ⟨y, hy, hr⟩ := h1 x hx
    exact ⟨y, List.mem_append_left _ hy, hr⟩
  · obtain ⟨y, hy, hr⟩ := h2 x hx
    exact ⟨y, List.mem_append_right _ hy, hr⟩

theorem cons {l l' : List α} (h : Cover R l l') {x y : α} (hr : R x y) : Cover R (x :: l) (y :: l') :=
  append (a := [x]) (a' := [y]) (fun _ hx => ⟨y, List.mem_singleton_self y, by rw [List.mem_singleton.1 hx]; exact hr⟩) h

theorem flatMap {β : Type} {S : β → β → Prop} {l l' : List β} (hl : Cover S l l') (f : β → List α)
    (hf : ∀ x y, S x y → Cover R (f x) (f y)) : Cover R (l.flatMap f) (l'.flatMap f) := by
  intro a ha
  obtain ⟨x, hx, ha⟩ := List.mem_flatMap.1 ha
  obtain ⟨y, hy, hs⟩ := hl x hx
  obtain ⟨b, hb, hr⟩ := hf x y hs a ha
  exact ⟨b, List.mem_flatMap.2 ⟨y, hy, hb⟩, hr⟩

end Cover

/-- the same selection, up to the order of the selections below it -/
inductive SelRel1 : Selection → Selection → Prop
  | same (x : Selection) : SelRel1 x x
  | field (pos : Pos) (alias : Option Name) (name : Name) (args : List Arg) (dirs : List Directive) {sel sel' : List Selection} :
      SelsEq sel sel' → SelRel1 (.field pos alias name args dirs sel) (.field pos alias name args dirs sel')
  | inline (pos : Pos) (tc : Option Name) (dirs : List Directive) {sel sel' : List Selection} :
      SelsEq sel sel' → SelRel1 (.inline pos tc dirs sel) (.inline pos tc dirs sel')

theorem SelRel1.trans {a b c : Selection} (h1 : SelRel1 a b) (h2 : SelRel1 b c) : SelRel1 a c := by
  cases h1 with
  | same => exact h2
  | field pos alias name args dirs hs =>
    cases h2 with
    | same => exact .field pos alias name args dirs hs
    | field _ _ _ _ _ hs2 => exact .field pos alias name args dirs (.trans hs hs2)
  | inline pos tc dirs hs =>
    cases h2 with
    | same => exact .inline pos tc dirs hs
    | inline _ _ _ hs2 => exact .inline pos tc dirs (.trans hs hs2)

theorem selsEq_mem {X Y : List Selection} (h : SelsEq X Y) : Cover SelRel1 X Y := by
  induction h with
  | refl l => exact .refl .same l
  | swap a b l => exact .of_perm .same (.swap b a l)
  | cons a _ ih => exact ih.cons (.same a)
  | field pos alias name args dirs l hs _ => exact (Cover.refl .same l).cons (.field pos alias name args dirs hs)
  | inline pos tc dirs l hs _ => exact (Cover.refl .same l).cons (.inline pos tc dirs hs)
  | trans _ _ ih1 ih2 => exact ih1.trans SelRel1.trans ih2

def AstAndDef.withSel (a : AstAndDef) (sel : List Selection) : AstAndDef := { a with field := { a.field with sel := sel } }

/-- the same field up to the order of the selections below it -/
def ARel (a a' : AstAndDef) : Prop := ∃ sel', a' = a.withSel sel' ∧ SelsEq a.field.sel sel'

theorem ARel.refl (a : AstAndDef) : ARel a a := ⟨a.field.sel, rfl, .refl _⟩
theorem ARel.trans {a b c : AstAndDef} (h1 : ARel a b) (h2 : ARel b c) : ARel a c := by
  obtain ⟨sel1, rfl, h1⟩ := h1
  obtain ⟨sel2, rfl, h2⟩ := h2
  exact ⟨sel2, rfl, .trans h1 h2⟩
theorem ARel.key {a a' : AstAndDef} (h : ARel a a') : keyOf a' = keyOf a := by
  obtain ⟨sel', rfl, _⟩ := h; rfl
theorem ARel.parent {a a' : AstAndDef} (h : ARel a a') : a'.parent = a.parent := by
  obtain ⟨sel', rfl, _⟩ := h; rfl
theorem ARel.fdef {a a' : AstAndDef} (h : ARel a a') : a'.fdef = a.fdef := by
  obtain ⟨sel', rfl, _⟩ := h; rfl
theorem ARel.name {a a' : AstAndDef} (h : ARel a a') : a'.field.name = a.field.name := by
  obtain ⟨sel', rfl, _⟩ := h; rfl
theorem ARel.args {a a' : AstAndDef} (h : ARel a a') : a'.field.args = a.field.args := by
  obtain ⟨sel', rfl, _⟩ := h; rfl
theorem ARel.sel {a a' : AstAndDef} (h : ARel a a') : SelsEq a.field.sel a'.field.sel := by
  obtain ⟨sel', rfl, h⟩ := h; exact h

/-- two lists of collected fields, equal up to order and up to `ARel` -/
inductive LRel : List AstAndDef → List AstAndDef → Prop
  | refl (l : List AstAndDef) : LRel l l
  | swap (x y : AstAndDef) (l : List AstAndDef) : LRel (x :: y :: l) (y :: x :: l)
  | cons (x : AstAndDef) {xs ys : List AstAndDef} : LRel xs ys → LRel (x :: xs) (x :: ys)
  | head {a a' : AstAndDef} (l : List AstAndDef) : ARel a a' → LRel (a :: l) (a' :: l)
  | trans {a b c : List AstAndDef} : LRel a b → LRel b c → LRel a c

theorem LRel.of_perm {a b : List AstAndDef} (h : a.Perm b) : LRel a b := by
  induction h with
  | nil => exact .refl _
  | cons x _ ih => exact .cons x ih
  | swap x y l => exact .swap y x l
  | trans _ _ ih1 ih2 => exact .trans ih1 ih2

theorem LRel.append_left (c : List AstAndDef) {a b : List AstAndDef} (h : LRel a b) : LRel (a ++ c) (b ++ c) := by
  induction h with
  | refl l => exact .refl _
  | swap x y l => exact .swap x y (l ++ c)
  | cons x _ ih => exact .cons x ih
  | head l h => exact .head (l ++ c) h
  | trans _ _ ih1 ih2 => exact .trans ih1 ih2

theorem LRel.append_right : ∀ (c : List AstAndDef) {a b : List AstAndDef}, LRel a b → LRel (c ++ a) (c ++ b)
  | [], _, _, h => h
  | x :: c, _, _, h => .cons x (LRel.append_right c h)

theorem LRel.append {a a' b b' : List AstAndDef} (h1 : LRel a a') (h2 : LRel b b') : LRel (a ++ b) (a' ++ b') :=
  .trans (h1.append_left b) (LRel.append_right a' h2)

theorem spec_sp_rel (s : Schema) (sp sp' : Name → List AstAndDef) (hsp : ∀ nm, LRel (sp nm) (sp' nm)) :
    (∀ (x : Selection) (parent : Option TypeDef), LRel (specFieldsSelWith s sp parent x) (specFieldsSelWith s sp' parent x)) ∧
    ∀ (xs : List Selection) (parent : Option TypeDef), LRel (specFieldsWith s sp parent xs) (specFieldsWith s sp' parent xs) := by
  refine sels_induction ?_ ?_ ?_ ?_ ?_
  · exact fun _ _ _ _ _ _ _ _ => .refl _
  · exact fun _ nm _ _ => hsp nm
  · exact fun _ _ _ _ ih _ => ih _
  · exact fun _ => .refl _
  · exact fun _ _ ih1 ih2 parent => (ih1 parent).append (ih2 parent)

theorem specFieldsWith_rel (s : Schema) {xs ys : List Selection} (h : SelsEq xs ys) :
    ∀ (sp sp' : Name → List AstAndDef), (∀ nm, LRel (sp nm) (sp' nm)) → ∀ parent : Option TypeDef,
      LRel (specFieldsWith s sp parent xs) (specFieldsWith s sp' parent ys) := by
  induction h with
  | refl l => intro sp sp' hsp parent; exact (spec_sp_rel s sp sp' hsp).2 l parent
  | swap x y l =>
    intro sp sp' hsp parent
    refine .trans ((spec_sp_rel s sp sp' hsp).2 _ parent) ?_
    simp only [specFieldsWith]
    rw [← List.append_assoc, ← List.append_assoc]
    exact (LRel.of_perm List.perm_append_comm).append_left _
  | cons x _ ih =>
    intro sp sp' hsp parent
    simp only [specFieldsWith]
    exact ((spec_sp_rel s sp sp' hsp).1 x parent).append (ih sp sp' hsp parent)
  | field pos alias name args dirs l hsel _ =>
    intro sp sp' hsp parent
    simp only [specFieldsWith, specFieldsSelWith, List.singleton_append]
    refine .trans (.head _ ⟨_, rfl, hsel⟩) (.cons _ ((spec_sp_rel s sp sp' hsp).2 l parent))
  | inline pos tc dirs l _ ih =>
    intro sp sp' hsp parent
    simp only [specFieldsWith, specFieldsSelWith]
    exact (ih sp sp' hsp _).append ((spec_sp_rel s sp sp' hsp).2 l parent)
  | trans _ _ ih1 ih2 =>
    intro sp sp' hsp parent
    exact .trans (ih1 sp sp' hsp parent) (ih2 sp' sp' (fun nm => .refl _) parent)

theorem LRel.mem {l l' : List AstAndDef} (h : LRel l l') : Cover (flip ARel) l' l := by
  induction h with
  | refl l => exact .refl (R := flip ARel) ARel.refl l
  | swap x y l => exact .of_perm (R := flip ARel) ARel.refl (.swap x y l)
  | cons x _ ih => exact ih.cons (.refl x)
  | head l hr => exact (Cover.refl (R := flip ARel) ARel.refl l).cons hr
  | trans _ _ ih1 ih2 => exact ih2.trans (fun r2 r1 => r1.trans r2) ih1

/-- a predicate on collected fields that reordering below a field does not change -/
def GClosed (G : AstAndDef → Prop) : Prop := ∀ a a', G a → ARel a a' → G a'

theorem LRel.allG {G : AstAndDef → Prop} (hG : GClosed G) {l l' : List AstAndDef} (h : LRel l l') (hg : ∀ a ∈ l, G a) :
    ∀ a' ∈ l', G a' := by
  intro a' ha'
  obtain ⟨a, ha, hr⟩ := h.mem a' ha'
  exact hG a a' (hg a ha) hr

theorem all_rel (G : AstAndDef → Prop) (hG : GClosed G) (f g : AstAndDef → Bool)
    (hfg : ∀ a a', G a → ARel a a' → f a = g a') {l l' : List AstAndDef} (h : LRel l l') (hg : ∀ a ∈ l, G a) :
    l.all f = l'.all g := by
  have hff : ∀ a a', G a → ARel a a' → f a = f a' :=
    fun a a' ga h => (hfg a a' ga h).trans (hfg a' a' (hG a a' ga h) (ARel.refl a')).symm
  have key : l.all f = l'.all f := by
    induction h with
    | refl l => rfl
    | swap x y l => simp only [List.all_cons, Bool.and_left_comm]
    | cons x _ ih => simp only [List.all_cons, ih (fun a ha => hg a (List.mem_cons_of_mem _ ha))]
    | head l ha => simp only [List.all_cons, hff _ _ (hg _ List.mem_cons_self) ha]
    | trans h1 _ ih1 ih2 => exact (ih1 hg).trans (ih2 (h1.allG hG hg))
  exact key.trans (all_congr_mem f g l' fun b hb => hfg b b (h.allG hG hg b hb) (ARel.refl b))

/-- pair tests that agree on related fields satisfying `G` -/
def PRelG (G : AstAndDef → Prop) (p q : AstAndDef → AstAndDef → Bool) : Prop :=
  ∀ a a' b b', G a → G b → ARel a a' → ARel b b' → p a b = q a' b'
/-- symmetric on the fields satisfying `G` -/
def PSymG (G : AstAndDef → Prop) (p : AstAndDef → AstAndDef → Bool) : Prop := ∀ a b, G a → G b → p a b = p b a

theorem PRelG.self_left {G : AstAndDef → Prop} (hG : GClosed G) {p q : AstAndDef → AstAndDef → Bool} (h : PRelG G p q) : PRelG G p p :=
  fun a a' b b' ga gb ha hb => (h a a' b b' ga gb ha hb).trans
    (h a' a' b' b' (hG a a' ga ha) (hG b b' gb hb) (ARel.refl _) (ARel.refl _)).symm

theorem allPairs_rel_same (G : AstAndDef → Prop) (hG : GClosed G)
    (p : AstAndDef → AstAndDef → Bool) (hp : PRelG G p p) (hs : PSymG G p) {l l' : List AstAndDef} (h : LRel l l') :
    (∀ a ∈ l, G a) → allPairs p l = allPairs p l' := by
  -- the guarded test `allPairs` applies to a pair is related and symmetric like `p`
  have key1 : ∀ (a : AstAndDef) a', G a → ARel a a' → ∀ b b', G b → ARel b b' →
      (a.field.responseKey != b.field.responseKey || p a b) = (a'.field.responseKey != b'.field.responseKey || p a' b') := by
    intro a a' ga ha b b' gb hb
    rw [show a'.field.responseKey = a.field.responseKey from ha.key, show b'.field.responseKey = b.field.responseKey from hb.key,
      hp a a' b b' ga gb ha hb]
  induction h with
  | refl l => intro _; rfl
  | swap x y l =>
    intro hg
    simp only [allPairs, List.all_cons]
    rw [bne_comm (a := x.field.responseKey), hs x y (hg x List.mem_cons_self) (hg y (List.mem_cons_of_mem _ List.mem_cons_self)),
      Bool.and_assoc, Bool.and_assoc, Bool.and_left_comm (l.all _)]
  | @cons x xs ys hl ih =>
    intro hg
    have gl : ∀ a ∈ xs, G a := fun a ha => hg a (List.mem_cons_of_mem _ ha)
    simp only [allPairs]
    rw [ih gl, all_rel G hG _ _ (key1 x x (hg x List.mem_cons_self) (ARel.refl x)) hl gl]
  | @head a a' l ha =>
    intro hg
    simp only [allPairs]
    rw [all_rel G hG _ _ (key1 a a' (hg a List.mem_cons_self) ha) (LRel.refl l) fun b hb => hg b (List.mem_cons_of_mem _ hb)]
  | trans h1 _ ih1 ih2 => exact fun hg => (ih1 hg).trans (ih2 (h1.allG hG hg))

/-- related pair tests give the same verdict on related lists -/
theorem allPairs_rel (G : AstAndDef → Prop) (hG : GClosed G)
    (p q : AstAndDef → AstAndDef → Bool) (hpq : PRelG G p q) (hs : PSymG G p) {l l' : List AstAndDef} (h : LRel l l')
    (hg : ∀ a ∈ l, G a) : allPairs p l = allPairs q l' :=
  (allPairs_rel_same G hG p (hpq.self_left hG) hs h hg).trans
    (allPairs_congr' p q l' (fun a ha b hb =>
      hpq a a b b (h.allG hG hg a ha) (h.allG hG hg b hb) (ARel.refl a) (ARel.refl b)))

end Gql
