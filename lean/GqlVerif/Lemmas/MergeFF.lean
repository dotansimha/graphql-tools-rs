/-
  Lemmas/MergeFF.lean — the field-merging rule on documents without fragment spreads: with the memo
  tables and the visited vector out of play, `find_conflict` is a plain recursion on the two fields
  (`pcD`), needs three units of fuel per nesting level and leaves the state alone.
-/
import GqlVerif.Lemmas.MergeCollect
import GqlVerif.Lemmas.MergeCalls
namespace Gql
open Gql.Spec

def depOf (a : AstAndDef) : Nat := selsDepth a.field.sel
def ffOf (a : AstAndDef) : Prop := recursiveSpreads a.field.sel = []

/-- the collected fields of a field's own selection set (no spreads to follow) -/
def subOf (s : Schema) (a : AstAndDef) : List AstAndDef :=
  specFieldsWith s (fun _ => []) ((a.fdef.map (·.ty.inner)).bind s.typeByName) a.field.sel

def typeConflictB (s : Schema) (a b : AstAndDef) : Bool :=
  match a.fdef, b.fdef with
  | some x, some y => isTypeConflict s x.ty y.ty
  | _, _ => false

/-- the part of `find_conflict` that looks at the two fields only -/
def pcFlat (s : Schema) (pe : Bool) (a b : AstAndDef) : Bool :=
  (!meOf pe a b && a.field.name != b.field.name) ||
  (!meOf pe a b && !sameArguments a.field.args b.field.args) ||
  typeConflictB s a b

def crossAny (p : AstAndDef → AstAndDef → Bool) (F1 F2 : List AstAndDef) : Bool :=
  F1.any fun x => F2.any fun y => keyOf x == keyOf y && p x y

/-- `find_conflict` reports something (fuel = nesting levels it may descend) -/
def pcD (s : Schema) : Nat → Bool → AstAndDef → AstAndDef → Bool
  | 0, _, _, _ => false
  | k + 1, pe, a, b => pcFlat s pe a b || crossAny (pcD s k (meOf pe a b)) (subOf s a) (subOf s b)

theorem selsDepth_eq_zero : ∀ sel : List Selection, selsDepth sel = 0 → sel = []
  | [], _ => rfl
  | x :: xs, h => by
      simp only [selsDepth] at h
      have : selDepth x ≥ 1 := by cases x <;> simp [selDepth] <;> omega
      omega

theorem mem_spec_dep (s : Schema) (sp : Name → List AstAndDef) :
    (∀ (x : Selection) (P : Option TypeDef) (a : AstAndDef), recursiveSpreadsSel x = [] → a ∈ specFieldsSelWith s sp P x →
      depOf a + 1 ≤ selDepth x ∧ ffOf a) ∧
    ∀ (xs : List Selection) (P : Option TypeDef) (a : AstAndDef), recursiveSpreads xs = [] → a ∈ specFieldsWith s sp P xs →
      depOf a + 1 ≤ selsDepth xs ∧ ffOf a := by
  refine sels_induction ?_ ?_ ?_ ?_ ?_
  · intro pos alias name args dirs sel _ P a h hm
    obtain rfl := List.mem_singleton.1 hm
    exact ⟨Nat.le_of_eq (Nat.add_comm _ _), h⟩
  · exact fun _ _ _ _ _ h => nomatch h
  · intro _ tc _ sel ih P a h hm
    obtain ⟨h1, h2⟩ := ih _ a h hm
    exact ⟨Nat.le_trans h1 (Nat.le_add_left _ _), h2⟩
  · exact fun _ _ _ hm => nomatch hm
  · intro x xs ih1 ih2 P a h hm
    obtain ⟨hx, hxs⟩ := List.append_eq_nil_iff.1 h
    rcases List.mem_append.1 hm with hm | hm
    · exact (ih1 P a hx hm).imp_left fun h1 => Nat.le_trans h1 (Nat.le_max_left _ _)
    · exact (ih2 P a hxs hm).imp_left fun h1 => Nat.le_trans h1 (Nat.le_max_right _ _)

theorem mem_specSel_dep (s : Schema) (sp : Name → List AstAndDef) :
    ∀ (x : Selection) (P : Option TypeDef) (a : AstAndDef), recursiveSpreadsSel x = [] → a ∈ specFieldsSelWith s sp P x →
      depOf a + 1 ≤ selDepth x ∧ ffOf a :=
  (mem_spec_dep s sp).1

theorem mem_subOf (s : Schema) (a x : AstAndDef) (ha : ffOf a) (hx : x ∈ subOf s a) : depOf x + 1 ≤ depOf a ∧ ffOf x :=
  (mem_spec_dep s _).2 a.field.sel _ x ha hx

theorem subOf_nil (s : Schema) (a : AstAndDef) (h : a.field.sel = []) : subOf s a = [] := by
  simp [subOf, h, specFieldsWith]

theorem crossAny_iff {p : AstAndDef → AstAndDef → Bool} {F1 F2 : List AstAndDef} :
    crossAny p F1 F2 = true ↔ ∃ x ∈ F1, ∃ y ∈ F2, keyOf x = keyOf y ∧ p x y = true := by
  simp only [crossAny, List.any_eq_true, Bool.and_eq_true, beq_iff_eq]

theorem crossAny_eq_false_iff {p : AstAndDef → AstAndDef → Bool} {F1 F2 : List AstAndDef} :
    crossAny p F1 F2 = false ↔ ∀ x ∈ F1, ∀ y ∈ F2, keyOf x = keyOf y → p x y = false := by
  simp only [crossAny, List.any_eq_false, Bool.and_eq_true, beq_iff_eq, not_and, Bool.not_eq_true]

theorem typeConflictB_eq (s : Schema) (a b : AstAndDef) : typeConflictB s a b = (typeConflictOf s a b).isSome := by
  unfold typeConflictB typeConflictOf
  cases a.fdef <;> cases b.fdef <;> simp
  split <;> simp_all

theorem subfieldConflicts_none (cs : List Conflict) (key : Name) (p1 p2 : Pos) :
    (subfieldConflicts cs key p1 p2).isSome = !cs.isEmpty := by
  unfold subfieldConflicts
  cases cs <;> simp

theorem findConflict_cases (s : Schema) (d : Document) (n : Nat) (key : Name) (a b : AstAndDef) (pe : Bool) (st : MState)
    (hst : st.stuck = false) :
    (pcFlat s pe a b = true ∧
      ∃ r, findConflict s d (n + 1) key a b pe st = (some ⟨key, r, [a.field.pos], [b.field.pos]⟩, st)) ∨
    (pcFlat s pe a b = false ∧ findConflict s d (n + 1) key a b pe st =
      if !a.field.sel.isEmpty && !b.field.sel.isEmpty then
        let r := betweenSubSelectionSets s d n (meOf pe a b) (a.fdef.map (·.ty.inner)) a.field.sel
          (b.fdef.map (·.ty.inner)) b.field.sel st
        (subfieldConflicts r.1 key a.field.pos a.field.pos, r.2)
      else (none, st)) := by
  rw [findConflict_unstuck s d n key a b pe hst, pcFlat, typeConflictB_eq]
  cases (!meOf pe a b && a.field.name != b.field.name)
  · cases (!meOf pe a b && !sameArguments a.field.args b.field.args)
    · cases typeConflictOf s a b with
      | none => exact Or.inr ⟨rfl, rfl⟩
      | some p => exact Or.inl ⟨rfl, _, rfl⟩
    · exact Or.inl ⟨rfl, _, rfl⟩
  · exact Or.inl ⟨rfl, _, rfl⟩

theorem isEmpty_false_or {α : Type} {l1 l2 : List α} (h : ¬ ((!l1.isEmpty && !l2.isEmpty) = true)) : l1 = [] ∨ l2 = [] := by
  cases l1 with
  | nil => exact Or.inl rfl
  | cons a l1 =>
    cases l2 with
    | nil => exact Or.inr rfl
    | cons b l2 => simp at h

theorem betweenSubSelectionSets_of_no_names (s : Schema) (d : Document) (n : Nat) (me : Bool) (pn1 : Option Name)
    (sel1 : List Selection) (pn2 : Option Name) (sel2 : List Selection) {st : MState} (hst : st.stuck = false)
    {fm1 fm2 : FieldMap} (h1 : fieldsAndFragmentNames s (pn1.bind s.typeByName) sel1 = (fm1, []))
    (h2 : fieldsAndFragmentNames s (pn2.bind s.typeByName) sel2 = (fm2, [])) :
    betweenSubSelectionSets s d (n + 1) me pn1 sel1 pn2 sel2 st = conflictsBetween s d n me fm1 fm2 st := by
  rw [betweenSubSelectionSets_unstuck s d n me pn1 sel1 pn2 sel2 hst h1 h2]
  rfl

theorem pushConflict_none (acc : MRes) (st : MState) : pushConflict acc (none, st) = (acc.1, st) := rfl
theorem pushConflict_some (acc : MRes) (c : Conflict) (st : MState) : pushConflict acc (some c, st) = (acc.1 ++ [c], st) := rfl

/-- started in state `st`, whatever has been found so far, `run` hands `st` back and appends what it
    finds, which is nothing iff `P` -/
def Quiet (st : MState) (run : MRes → MRes) (P : Prop) : Prop :=
  ∀ cs0, ∃ extra, run (cs0, st) = (cs0 ++ extra, st) ∧ (extra = [] ↔ P)

theorem Quiet.push {st : MState} {g : MState → Option Conflict × MState} (h : (g st).2 = st) :
    Quiet st (fun acc => pushConflict acc (g acc.2)) ((g st).1 = none) := by
  intro cs0
  cases hc : (g st).1 with
  | none => exact ⟨[], by simp [pushConflict, hc, h], by simp⟩
  | some c => exact ⟨[c], by simp [pushConflict, hc, h], by simp⟩

theorem Quiet.foldl {α : Type} {st : MState} {step : MRes → α → MRes} {P : α → Prop} :
    ∀ L : List α, (∀ x ∈ L, Quiet st (fun acc => step acc x) (P x)) →
      Quiet st (fun acc => L.foldl step acc) (∀ x ∈ L, P x)
  | [], _, cs0 => ⟨[], by simp, by simp⟩
  | x :: L, h, cs0 => by
      obtain ⟨e1, h1, i1⟩ := h x (by simp) cs0
      obtain ⟨e2, h2, i2⟩ := Quiet.foldl L (fun y hy => h y (by simp [hy])) (cs0 ++ e1)
      have h1 : step (cs0, st) x = (cs0 ++ e1, st) := h1
      have h2 : L.foldl step (cs0 ++ e1, st) = (cs0 ++ e1 ++ e2, st) := h2
      refine ⟨e1 ++ e2, by simp only [List.foldl_cons, h1, h2, List.append_assoc], ?_⟩
      simp only [List.append_eq_nil_iff, i1, i2, List.mem_cons, forall_eq_or_imp]

theorem foldl_ext_step {α : Type} (step : MRes → α → MRes) (st : MState) (P : α → Prop)
    (hstep : ∀ x cs0, ∃ extra, step (cs0, st) x = (cs0 ++ extra, st) ∧ (extra = [] ↔ P x)) :
    ∀ (L : List α) (cs0 : List Conflict),
      ∃ extra, L.foldl step (cs0, st) = (cs0 ++ extra, st) ∧ (extra = [] ↔ ∀ x ∈ L, P x) :=
  fun L => Quiet.foldl L fun x _ => hstep x

theorem eq_none_iff_of_isSome {α : Type} {o : Option α} {b : Bool} (h : o.isSome = b) : o = none ↔ b = false := by
  subst h; cases o <;> simp

theorem between_maps (fc : Name → AstAndDef → AstAndDef → Bool → MState → Option Conflict × MState)
    (me : Bool) (st : MState) (F1 F2 : List AstAndDef)
    (hfc : ∀ f1 ∈ F1, ∀ f2 ∈ F2, ∀ k, (fc k f1 f2 me st).2 = st) :
    ∃ cs, (groupInto [] F1).foldl (betweenKeyStep fc me (groupInto [] F2)) ([], st) = (cs, st) ∧
      (cs = [] ↔ ∀ f1 ∈ F1, ∀ f2 ∈ F2, keyOf f1 = keyOf f2 → (fc (keyOf f1) f1 f2 me st).1 = none) := by
  have hq : Quiet st (fun acc => (groupInto [] F1).foldl (betweenKeyStep fc me (groupInto [] F2)) acc)
      (∀ kv ∈ groupInto [] F1, ∀ f1 ∈ kv.2, ∀ f2 ∈ F2.filter (fun a => keyOf a == kv.1), (fc kv.1 f1 f2 me st).1 = none) := by
    refine Quiet.foldl _ fun kv hkv => Quiet.foldl _ fun f1 hf1 => ?_
    rw [alGet_groupInto_nil]
    refine Quiet.foldl _ fun f2 hf2 => Quiet.push (g := fun st' => fc kv.1 f1 f2 me st') (hfc f1 ?_ f2 (List.mem_filter.1 hf2).1 kv.1)
    rw [mem_groupInto F1 kv.1 kv.2 hkv] at hf1
    exact (List.mem_filter.1 hf1).1
  obtain ⟨cs, hcs, hiff⟩ := hq []
  refine ⟨cs, hcs, hiff.trans ?_⟩
  rw [forall_groupInto F1 (fun k fs => ∀ f1 ∈ fs, ∀ f2 ∈ F2.filter (fun a => keyOf a == k), (fc k f1 f2 me st).1 = none)
    (fun _ _ h => nomatch h)]
  simp only [List.mem_filter, beq_iff_eq, and_imp]
  exact ⟨fun h f1 hf1 f2 hf2 hk => h _ f1 hf1 rfl f2 hf2 hk.symm,
    fun h k f1 hf1 hk f2 hf2 hk2 => by subst hk; exact h f1 hf1 f2 hf2 hk2.symm⟩

/-- **`find_conflict` on spread-free fields**: with fuel for the nesting it returns the state it
    was given, and reports something exactly when `pcD` says so -/
theorem findConflict_ff (s : Schema) (d : Document) :
    ∀ (D n : Nat) (key : Name) (a b : AstAndDef) (pe : Bool) (st : MState),
      depOf a ≤ D → 3 * D + 1 ≤ n → ffOf a → ffOf b → st.stuck = false →
      (findConflict s d n key a b pe st).2 = st ∧
      ((findConflict s d n key a b pe st).1.isSome = pcD s (D + 1) pe a b) := by
  intro D
  induction D using Nat.strongRecOn with | _ D ih => ?_
  intro n key a b pe st hD hn ha hb hst
  obtain ⟨n, rfl⟩ : ∃ m, n = m + 1 :=
    Nat.exists_eq_add_one_of_ne_zero (by rintro rfl; exact absurd hn (Nat.not_succ_le_zero _))
  rw [pcD]
  rcases findConflict_cases s d n key a b pe st hst with ⟨hf, c, hc⟩ | ⟨hf, hc⟩
  · rw [hc, hf]; exact ⟨rfl, rfl⟩
  rw [hc, hf, Bool.false_or]
  by_cases hsel : (!a.field.sel.isEmpty && !b.field.sel.isEmpty) = true
  · -- both have sub-selections, so there is a level below: `D = D' + 1`, and fuel for it: `n = n2 + 2`
    have hne : selsDepth a.field.sel ≠ 0 := fun e => by simp [selsDepth_eq_zero _ e] at hsel
    obtain ⟨D', rfl⟩ : ∃ D', D = D' + 1 := Nat.exists_eq_add_one_of_ne_zero fun h0 => hne (Nat.le_zero.1 (h0 ▸ hD))
    have h3 : 3 * D' + 1 + 2 ≤ n := Nat.le_of_succ_le_succ hn
    obtain ⟨n2, rfl, hn2⟩ : ∃ n2, n = n2 + 2 ∧ 3 * D' + 1 ≤ n2 :=
      ⟨n - 2, (Nat.sub_add_cancel (Nat.le_trans (Nat.le_add_left _ _) h3)).symm, Nat.le_sub_of_add_le h3⟩
    have hsub : ∀ f1 ∈ subOf s a, ∀ f2 ∈ subOf s b, ∀ k,
        (findConflict s d n2 k f1 f2 (meOf pe a b) st).2 = st ∧
        ((findConflict s d n2 k f1 f2 (meOf pe a b) st).1.isSome = pcD s (D' + 1) (meOf pe a b) f1 f2) := by
      intro f1 hf1 f2 hf2 k
      obtain ⟨hd1, hff1⟩ := mem_subOf s a f1 ha hf1
      obtain ⟨_, hff2⟩ := mem_subOf s b f2 hb hf2
      exact ih D' (Nat.lt_succ_self _) n2 k f1 f2 (meOf pe a b) st (Nat.le_of_succ_le_succ (Nat.le_trans hd1 hD)) hn2 hff1 hff2 hst
    obtain ⟨cs, hcs, hiff⟩ := between_maps (findConflict s d n2) (meOf pe a b) st (subOf s a) (subOf s b)
      (fun f1 hf1 f2 hf2 k => (hsub f1 hf1 f2 hf2 k).1)
    have hc1 := fieldsAndFragmentNames_ff s (fun _ => []) ((a.fdef.map (·.ty.inner)).bind s.typeByName) a.field.sel ha
    have hc2 := fieldsAndFragmentNames_ff s (fun _ => []) ((b.fdef.map (·.ty.inner)).bind s.typeByName) b.field.sel hb
    rw [if_pos hsel, betweenSubSelectionSets_of_no_names s d _ _ _ _ _ _ hst hc1 hc2, conflictsBetween_unstuck s d _ _ _ _ hst]
    suffices h : ∀ r : MRes, r = (cs, st) → (subfieldConflicts r.1 key a.field.pos a.field.pos, r.2).2 = st ∧
        (subfieldConflicts r.1 key a.field.pos a.field.pos, r.2).1.isSome =
          crossAny (pcD s (D' + 1) (meOf pe a b)) (subOf s a) (subOf s b) from h _ hcs
    rintro _ rfl
    have hcross : cs.isEmpty = !crossAny (pcD s (D' + 1) (meOf pe a b)) (subOf s a) (subOf s b) := by
      rw [Bool.eq_iff_iff, List.isEmpty_iff, hiff, Bool.not_eq_true', crossAny_eq_false_iff]
      exact forall_congr' fun f1 => forall_congr' fun hf1 => forall_congr' fun f2 => forall_congr' fun hf2 =>
        forall_congr' fun _ => eq_none_iff_of_isSome (hsub f1 hf1 f2 hf2 _).2
    exact ⟨rfl, by rw [subfieldConflicts_none, hcross, Bool.not_not]⟩
  · -- one of the two has no sub-selection: no cross pair
    rw [if_neg hsel]
    refine ⟨rfl, Eq.symm (crossAny_eq_false_iff.2 fun x hx y hy _ => ?_)⟩
    rcases isEmpty_false_or hsel with h | h
    · rw [subOf_nil s a h] at hx; cases hx
    · rw [subOf_nil s b h] at hy; cases hy

theorem crossAny_congr {p q : AstAndDef → AstAndDef → Bool} {F1 F2 : List AstAndDef}
    (h : ∀ x ∈ F1, ∀ y ∈ F2, p x y = q x y) : crossAny p F1 F2 = crossAny q F1 F2 := by
  rw [Bool.eq_iff_iff, crossAny_iff, crossAny_iff]
  exact ⟨fun ⟨x, hx, y, hy, hk, hp⟩ => ⟨x, hx, y, hy, hk, h x hx y hy ▸ hp⟩,
    fun ⟨x, hx, y, hy, hk, hp⟩ => ⟨x, hx, y, hy, hk, (h x hx y hy).symm ▸ hp⟩⟩

theorem pcD_stable_le (s : Schema) : ∀ (k k' : Nat) (pe : Bool) (a b : AstAndDef), ffOf a → depOf a + 1 ≤ k → k ≤ k' →
    pcD s k' pe a b = pcD s k pe a b := by
  intro k
  induction k with
  | zero => exact fun _ _ _ _ _ h _ => absurd h (Nat.not_succ_le_zero _)
  | succ k ih =>
    intro k' pe a b ha hk hkk'
    cases k' with
    | zero => exact absurd hkk' (Nat.not_succ_le_zero _)
    | succ k' =>
      rw [pcD, pcD]
      congr 1
      apply crossAny_congr
      intro x hx y _
      obtain ⟨hd, hfx⟩ := mem_subOf s a x ha hx
      exact ih k' _ x y hfx (Nat.le_trans hd (Nat.le_of_succ_le_succ hk)) (Nat.le_of_succ_le_succ hkk')

/-- conflict between two fields of a spread-free document (any sufficient fuel) -/
def PCb (s : Schema) (pe : Bool) (a b : AstAndDef) : Bool := pcD s (depOf a + 1) pe a b

theorem PCb_eq (s : Schema) (pe : Bool) (a b : AstAndDef) (ha : ffOf a) :
    PCb s pe a b = (pcFlat s pe a b || crossAny (PCb s (meOf pe a b)) (subOf s a) (subOf s b)) := by
  unfold PCb
  rw [pcD]
  congr 1
  apply crossAny_congr
  intro x hx y _
  obtain ⟨hd, hfx⟩ := mem_subOf s a x ha hx
  exact pcD_stable_le s (depOf x + 1) (depOf a) _ x y hfx (Nat.le_refl _) hd

theorem orderedPairs_forall {α : Type} (R : α → α → Prop) : ∀ L : List α,
    (∀ p ∈ orderedPairs L, R p.1 p.2) ↔ L.Pairwise R
  | [] => by simp [orderedPairs]
  | x :: xs => by
      simp only [orderedPairs, List.mem_append, List.mem_map, List.pairwise_cons]
      rw [← orderedPairs_forall R xs]
      constructor
      · intro h
        exact ⟨fun y hy => h (x, y) (Or.inl ⟨y, hy, rfl⟩), fun p hp => h p (Or.inr hp)⟩
      · rintro ⟨h1, h2⟩ p (⟨y, hy, rfl⟩ | hp)
        · exact h1 y hy
        · exact h2 p hp

theorem mem_orderedPairs {α : Type} (L : List α) (p : α × α) (h : p ∈ orderedPairs L) : p.1 ∈ L ∧ p.2 ∈ L :=
  (orderedPairs_forall (fun a b => a ∈ L ∧ b ∈ L) L).2 (List.pairwise_of_forall_mem_list fun _ ha _ hb => ⟨ha, hb⟩) p h

theorem pairwise_mem_ne {α : Type} {R : α → α → Prop} : ∀ {L : List α}, L.Pairwise R → ∀ a ∈ L, ∀ b ∈ L, a ≠ b → R a b ∨ R b a
  | [], _, a, ha, _, _, _ => absurd ha List.not_mem_nil
  | x :: xs, h, a, ha, b, hb, hne => by
      rw [List.pairwise_cons] at h
      rcases List.mem_cons.1 ha with rfl | ha'
      · rcases List.mem_cons.1 hb with rfl | hb'
        · exact absurd rfl hne
        · exact Or.inl (h.1 b hb')
      · rcases List.mem_cons.1 hb with rfl | hb'
        · exact Or.inr (h.1 a ha')
        · exact pairwise_mem_ne h.2 a ha' b hb' hne

theorem pairwise_by_key (R : AstAndDef → AstAndDef → Prop) (F : List AstAndDef) :
    (∀ k, (F.filter fun a => keyOf a == k).Pairwise R) ↔ F.Pairwise (fun a b => keyOf a = keyOf b → R a b) := by
  simp only [List.pairwise_filter, beq_iff_eq]
  -- both sides speak of the two-element sublists
  simp only [List.pairwise_iff_forall_sublist]
  exact ⟨fun h a b hab hk => h (keyOf b) hab hk rfl, fun h k a b hab ha hb => h hab (ha.trans hb.symm)⟩

/-- **one selection set** of a spread-free document: `collect_conflicts_within` leaves the state
    alone and reports nothing iff no two same-key fields conflict -/
theorem conflictsWithin_ff (s : Schema) (d : Document) (D n : Nat) (F : List AstAndDef) (st : MState)
    (hF : ∀ a ∈ F, depOf a ≤ D ∧ ffOf a) (hn : 3 * D + 1 ≤ n) (hst : st.stuck = false) :
    ∃ cs, conflictsWithin s d n (groupInto [] F) st = (cs, st) ∧
      (cs = [] ↔ F.Pairwise (fun a b => keyOf a = keyOf b → PCb s false a b = false)) := by
  have hpair : ∀ kv ∈ groupInto [] F, ∀ p ∈ orderedPairs kv.2, ∀ k,
      (findConflict s d n k p.1 p.2 false st).2 = st ∧ ((findConflict s d n k p.1 p.2 false st).1.isSome = PCb s false p.1 p.2) := by
    intro kv hkv p hp k
    have hin : ∀ a ∈ kv.2, a ∈ F := fun a ha => by
      rw [mem_groupInto F kv.1 kv.2 hkv] at ha; exact (List.mem_filter.1 ha).1
    obtain ⟨ha, hb⟩ := mem_orderedPairs kv.2 p hp
    obtain ⟨h1, h2⟩ := findConflict_ff s d D n k p.1 p.2 false st (hF _ (hin _ ha)).1 hn (hF _ (hin _ ha)).2 (hF _ (hin _ hb)).2 hst
    exact ⟨h1, h2.trans (pcD_stable_le s _ _ false _ _ (hF _ (hin _ ha)).2 (Nat.le_refl _) (Nat.succ_le_succ (hF _ (hin _ ha)).1))⟩
  have hq : Quiet st (fun acc => (groupInto [] F).foldl (fun (acc : MRes) (kv : Name × List AstAndDef) =>
        (orderedPairs kv.2).foldl (fun (acc : MRes) p => pushConflict acc (findConflict s d n kv.1 p.1 p.2 false acc.2)) acc) acc)
      (∀ kv ∈ groupInto [] F, ∀ p ∈ orderedPairs kv.2, (findConflict s d n kv.1 p.1 p.2 false st).1 = none) :=
    Quiet.foldl _ fun kv hkv => Quiet.foldl _ fun p hp =>
      Quiet.push (g := fun st' => findConflict s d n kv.1 p.1 p.2 false st') (hpair kv hkv p hp kv.1).1
  obtain ⟨cs, hcs, hiff⟩ := hq []
  refine ⟨cs, hcs, hiff.trans ?_⟩
  rw [← pairwise_by_key, ← forall_groupInto F (fun _ fs => fs.Pairwise fun a b => PCb s false a b = false) (fun _ => .nil)]
  refine forall_congr' fun kv => forall_congr' fun hkv => ?_
  rw [← orderedPairs_forall]
  exact forall_congr' fun p => forall_congr' fun hp => eq_none_iff_of_isSome (hpair kv hkv p hp kv.1).2

end Gql
