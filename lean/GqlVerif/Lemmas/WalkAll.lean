/-
  Lemmas/WalkAll.lean — a property of type environments that is preserved by the four scoping
  operations holds at every callback of the walk.
-/
import GqlVerif.Lemmas.Fires
import GqlVerif.Lemmas.WalkStep
namespace Gql

structure EnvClosed (s : Schema) (P : Snap → Prop) : Prop where
  withType : ∀ e t, P e → P (e.withType s t)
  withParent : ∀ e, P e → P e.withParent
  withField : ∀ e f, P e → P (e.withField f)
  withInput : ∀ e t, P e → P (e.withInput s t)

def AllSnap (P : Snap → Prop) (tr : Trace) : Prop := ∀ x ∈ tr, P x.2

theorem AllSnap.nil {P : Snap → Prop} : AllSnap P [] := by intro x h; simp at h
theorem AllSnap.append {P : Snap → Prop} {a b : Trace} (ha : AllSnap P a) (hb : AllSnap P b) : AllSnap P (a ++ b) := by
  intro x hx; rcases List.mem_append.1 hx with h | h; exact ha x h; exact hb x h
theorem AllSnap.cons {P : Snap → Prop} {x : Ev × Snap} {t : Trace} (hx : P x.2) (ht : AllSnap P t) : AllSnap P (x :: t) := by
  intro y hy; rcases List.mem_cons.1 hy with rfl | h; exact hx; exact ht y h

theorem AllSnap.bracket {P : Snap → Prop} {n : Node} {e : Snap} {t : Trace} (he : P e) (ht : AllSnap P t) :
    AllSnap P ((.enter n, e) :: t ++ [(.leave n, e)]) :=
  AllSnap.cons he (AllSnap.append ht (AllSnap.cons he AllSnap.nil))

section
variable {s : Schema} {P : Snap → Prop} (hc : EnvClosed s P)
include hc

theorem allSnap_value_values_objFields :
    (∀ v e, P e → AllSnap P (walkValue s e v)) ∧ (∀ vs e, P e → AllSnap P (walkValues s e vs)) ∧
      ∀ fs e, P e → AllSnap P (walkObjFields s e fs) :=
  Walk.value_values_objFields .nil .append (fun _ _ _ => .bracket) hc.withInput

theorem allSnap_values : ∀ (vs : List Value) (e : Snap), P e → AllSnap P (walkValues s e vs) :=
  (allSnap_value_values_objFields hc).2.1
theorem allSnap_objFields : ∀ (fs : List (Name × Value)) (e : Snap), P e → AllSnap P (walkObjFields s e fs) :=
  (allSnap_value_values_objFields hc).2.2

theorem allSnap_arguments (defs : Option (List InputValueDef)) (e : Snap) (h : P e) (as : List Arg) :
    AllSnap P (walkArguments s defs e as) :=
  Walk.arguments .nil .append (fun _ _ _ => .bracket) hc.withInput defs e h as

theorem allSnapStep : Walk.Step s P (fun _ => True) (fun _ => True) (AllSnap P) where
  nil := .nil
  append := .append
  node _ := .bracket
  selSet h _ := .bracket (hc.withParent _ h)
  directive d h := .bracket h (allSnap_arguments hc _ _ h d.args)
  field f _ h1 h2 hd hs := .bracket h1 (.append (.append (allSnap_arguments hc _ _ h2 f.args) hd) hs)
  varDefs vs h _ := Walk.varDefs .nil .append (fun _ _ _ => .bracket) hc.withInput _ h vs
  withType t := hc.withType _ t
  withParent := hc.withParent _
  withField f := hc.withField _ f
  hered := hereditary_true

theorem allSnap_selection : ∀ (x : Selection) (e : Snap), P e → AllSnap P (walkSelection s e x) :=
  fun x e h => (allSnapStep hc).sels.1 x [] e h trivial

theorem allSnap_walkOf (d : Document) (h0 : P Snap.empty) : AllSnap P (walkOf s d) := by
  unfold walkOf
  cases h : walkDocument s Snap.empty d with
  | none => exact AllSnap.nil
  | some t => exact (allSnapStep hc).document h0 d (fun _ _ => trivial) (fun _ _ _ _ => trivial) h

end
end Gql
