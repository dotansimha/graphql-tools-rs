/-
  Lemmas/MergeCompleteStep.lean — the induction step of `CompleteAt` (Lemmas/MergeComplete.lean):
  the five functions of the field-merging rule, one unit of fuel up.
-/
import GqlVerif.Lemmas.MergeComplete
namespace Gql
open Gql.Spec

theorem subfield_nil {cs : List Conflict} {key : Name} {p1 p2 : Pos} (h : subfieldConflicts cs key p1 p2 = none) : cs = [] := by
  have h1 := subfieldConflicts_none cs key p1 p2
  rw [h] at h1
  cases cs with
  | nil => rfl
  | cons c cs => simp at h1

theorem fafn_ranked (s : Schema) (d : Document) {parent : Option TypeDef} {sel : List Selection} {c : FieldMap × List Name}
    (hc : fieldsAndFragmentNames s parent sel = c) {r : Nat} (hr : Rs d sel ≤ r) :
    KeyOk c.1 ∧ (alKeys c.1).Nodup ∧ FMR d c.1 r ∧ ∀ x ∈ c.2, Dr d x + 1 ≤ r := by
  subst hc
  exact ⟨(fafn_facts s d _ sel).1, fafn_nodup s _ sel, fun a ha => Nat.le_trans (fafn_rank s d _ sel a ha) hr,
    fun x hx => Nat.le_trans (fafn_name_rank s d _ sel x hx) hr⟩

theorem ref_facts (s : Schema) (d : Document) (hac : ¬ FragmentCycle d) {nm : Name} {fr : FragDef} (hf : d.fragByName nm = some fr)
    {c : FieldMap × List Name} (hc : referencedFieldsAndFragmentNames s fr = c) :
    KeyOk c.1 ∧ (alKeys c.1).Nodup ∧ FMR d c.1 (Dr d nm) ∧ ∀ x ∈ c.2, Dr d x + 1 ≤ Dr d nm :=
  fafn_ranked s d hc (Nat.le_of_eq (Dr_some d hac nm fr hf).symm)

theorem memFrag_cases (s : Schema) (d : Document) {nm : Name} {fr : FragDef} (hf : d.fragByName nm = some fr)
    {c : FieldMap × List Name} (hc : referencedFieldsAndFragmentNames s fr = c) {y : AstAndDef} (hy : MemFrag s d nm y) :
    FM c.1 y ∨ ∃ g ∈ c.2, MemFrag s d g y := by
  obtain ⟨fr', hfr, hy⟩ := memFrag_decomp s d nm y hy
  cases hf.symm.trans hfr
  exact hc ▸ hy

theorem not_memFrag_of_undefined (s : Schema) (d : Document) {nm : Name} (h : d.fragByName nm = none) (y : AstAndDef) :
    ¬ MemFrag s d nm y := fun hy => by
  obtain ⟨fr, hfr, _⟩ := memFrag_decomp s d nm y hy
  rw [h] at hfr; cases hfr

theorem fragOK_of_undefined (s : Schema) (d : Document) (me : Bool) (n1 n2 : Name)
    (h : d.fragByName n1 = none ∨ d.fragByName n2 = none) : FragOK s d me n1 n2 :=
  fun x y hx hy _ => h.elim (fun h => absurd hx (not_memFrag_of_undefined s d h x)) fun h => absurd hy (not_memFrag_of_undefined s d h y)

section
variable (s : Schema) (d : Document) (n : Nat) (ih : CompleteAt s d n)
include ih

theorem step_fc (key : Name) (a b : AstAndDef) (pe : Bool) (st : MState) (P : Pend) (r1 r2 : Nat)
    (res : Option Conflict × MState) (heq : findConflict s d (n + 1) key a b pe st = res) (hnone : res.1 = none)
    (hns : res.2.stuck = false) (hmemo : MemoOK s d P st.compared) (hsafe : Safe d P r1 r2)
    (hr1 : Rs d a.field.sel ≤ r1) (hr2 : Rs d b.field.sel ≤ r2) :
    MemoOK s d P res.2.compared ∧ res.2.visited = st.visited ∧ ¬ FailsC s d pe a b := by
  rw [findConflict_unstuck s d n key a b pe (unstuck_of (stuck_fc s d (n + 1) key a b pe st) (heq ▸ hns))] at heq
  by_cases hname : (!meOf pe a b && a.field.name != b.field.name) = true
  · rw [if_pos hname] at heq; subst heq; cases hnone
  rw [if_neg hname] at heq
  by_cases hargs : (!meOf pe a b && !sameArguments a.field.args b.field.args) = true
  · rw [if_pos hargs] at heq; subst heq; cases hnone
  rw [if_neg hargs] at heq
  cases htc : typeConflictOf s a b with
  | some xy => rw [htc] at heq; subst heq; cases hnone
  | none =>
    rw [htc] at heq
    by_cases hsel : (!a.field.sel.isEmpty && !b.field.sel.isEmpty) = true
    · rw [if_pos hsel] at heq
      subst heq
      obtain ⟨m', v', hc⟩ := ih.bs _ _ _ _ _ st P r1 r2 _ rfl (subfield_nil hnone) hns hmemo hsafe hr1 hr2
      exact ⟨m', v', not_failsC_of s d pe a b hname hargs htc fun x y hx hy hk => (hc x y hx hy hk).imp SharedLt.shared id⟩
    · rw [if_neg hsel] at heq
      subst heq
      refine ⟨hmemo, rfl, not_failsC_of s d pe a b hname hargs htc fun x y hx hy _ => ?_⟩
      rcases isEmpty_false_or hsel with h | h
      · exact absurd hx (memSub_nil s d a x h)
      · exact absurd hy (memSub_nil s d b y h)

theorem step_cb (me : Bool) (fm1 fm2 : FieldMap) (st : MState) (P : Pend) (r1 r2 : Nat) (res : MRes)
    (heq : conflictsBetween s d (n + 1) me fm1 fm2 st = res) (hnil : res.1 = []) (hns : res.2.stuck = false)
    (k1 : KeyOk fm1) (k2 : KeyOk fm2) (hn2 : (alKeys fm2).Nodup) (hmemo : MemoOK s d P st.compared) (hsafe : Safe d P r1 r2)
    (hf1 : FMR d fm1 r1) (hf2 : FMR d fm2 r2) :
    MemoOK s d P res.2.compared ∧ res.2.visited = st.visited ∧
      ∀ x y, FM fm1 x → FM fm2 y → keyOf x = keyOf y → ¬ FailsC s d me x y := by
  rw [conflictsBetween_unstuck s d n me fm1 fm2 (unstuck_of (stuck_cb s d (n + 1) me fm1 fm2 st) (heq ▸ hns))] at heq
  subst heq
  obtain ⟨hI, hq⟩ := between_inv (findConflict s d n) (stuck_fc s d n) me fm1 fm2
    (fun st' => MemoOK s d P st'.compared ∧ st'.visited = st.visited) (fun a b => ¬ FailsC s d me a b) k2 hn2
    (fun k a b st' ha hb hI hnone hs => by
      obtain ⟨m', v', hc⟩ := ih.fc k a b me st' P r1 r2 _ rfl hnone hs hI.1 hsafe (hf1 a ha) (hf2 b hb)
      exact ⟨⟨m', v'.trans hI.2⟩, hc⟩)
    st hnil hns ⟨hmemo, rfl⟩
  exact ⟨hI.1, hI.2, fun x y hx hy hk => hq x y hx hy hk k1⟩

theorem step_bs (me : Bool) (pn1 : Option Name) (sel1 : List Selection) (pn2 : Option Name) (sel2 : List Selection)
    (st : MState) (P : Pend) (r1 r2 : Nat) (res : MRes)
    (heq : betweenSubSelectionSets s d (n + 1) me pn1 sel1 pn2 sel2 st = res) (hnil : res.1 = []) (hns : res.2.stuck = false)
    (hmemo : MemoOK s d P st.compared) (hsafe : Safe d P r1 r2) (hr1 : Rs d sel1 ≤ r1) (hr2 : Rs d sel2 ≤ r2) :
    MemoOK s d P res.2.compared ∧ res.2.visited = st.visited ∧
      Cross s d me (min r1 r2) (Mem s d (pn1.bind s.typeByName) sel1) (Mem s d (pn2.bind s.typeByName) sel2) := by
  have hst := unstuck_of (stuck_bs s d (n + 1) me pn1 sel1 pn2 sel2 st) (heq ▸ hns)
  obtain ⟨c1, hc1⟩ : ∃ c, fieldsAndFragmentNames s (pn1.bind s.typeByName) sel1 = c := ⟨_, rfl⟩
  obtain ⟨c2, hc2⟩ : ∃ c, fieldsAndFragmentNames s (pn2.bind s.typeByName) sel2 = c := ⟨_, rfl⟩
  obtain ⟨k1, _, f1, g1⟩ := fafn_ranked s d hc1 hr1
  obtain ⟨k2, nd2, f2, g2⟩ := fafn_ranked s d hc2 hr2
  rw [betweenSubSelectionSets_unstuck s d n me pn1 sel1 pn2 sel2 hst hc1 hc2] at heq
  subst heq
  -- the four stages: backwards, each ended silent
  have ok3 : StepOk (fun acc a => runAll (fun b => betweenFragments s d n a b me) c2.2 acc) :=
    StepOk.fold (fun a => stepOk_cat (fun b => betweenFragments s d n a b me) (fun b => stuck_bf s d n a b me)) (fun _ => c2.2)
  have sb := (foldl_silent ok3 _ _ ⟨hnil, hns⟩).of_setVisited
  have sa := (runAll_silent (fun fn => stuck_ff s d n c2.1 fn me) _ _ sb).of_setVisited
  have s0 := (runAll_silent (fun fn => stuck_ff s d n c1.1 fn me) _ _ sa).of_setVisited
  -- forwards
  obtain ⟨m0, v0, q0⟩ := ih.cb me c1.1 c2.1 st P r1 r2 _ rfl s0.1 s0.2 k1 k2 nd2 hmemo hsafe f1 f2
  obtain ⟨⟨ma, _⟩, qa⟩ := runAll_inv (fun fn => stuck_ff s d n c1.1 fn me)
    (fun st' => MemoOK s d P st'.compared ∧ ∀ h ∈ st'.visited, FFOK s d c1.1 h me) (fun g => FFOK s d c1.1 g me) c2.2 _
    (fun g hg st' hI hs => by
      obtain ⟨m', q', v'⟩ := ih.ff c1.1 g me st' P r1 r2 _ rfl hs.1 hs.2 k1 hI.1 hsafe f1 (g2 g hg) (fun h hh _ => hI.2 h hh)
      exact ⟨⟨m', fun h hh => (v' h hh).elim (hI.2 h) id⟩, q'⟩)
    sa ⟨m0, fun _ h => absurd h List.not_mem_nil⟩
  obtain ⟨⟨mb, _⟩, qb⟩ := runAll_inv (fun fn => stuck_ff s d n c2.1 fn me)
    (fun st' => MemoOK s d P st'.compared ∧ ∀ h ∈ st'.visited, FFOK s d c2.1 h me) (fun g => FFOK s d c2.1 g me) c1.2 _
    (fun g hg st' hI hs => by
      obtain ⟨m', q', v'⟩ := ih.ff c2.1 g me st' P r2 r1 _ rfl hs.1 hs.2 k2 hI.1
        (fun p hp => Nat.add_comm r1 r2 ▸ hsafe p hp) f2 (g1 g hg) (fun h hh _ => hI.2 h hh)
      exact ⟨⟨m', fun h hh => (v' h hh).elim (hI.2 h) id⟩, q'⟩)
    sb ⟨ma, fun _ h => absurd h List.not_mem_nil⟩
  obtain ⟨⟨mc, vc⟩, qc⟩ := foldl_inv ok3
    (fun st' => MemoOK s d P st'.compared ∧ st'.visited = st.visited) (fun a => ∀ b ∈ c2.2, FragOK s d me a b) c1.2 _
    (fun a ha acc hI hn hs =>
      runAll_inv (fun b => stuck_bf s d n a b me) (fun st' => MemoOK s d P st'.compared ∧ st'.visited = st.visited)
        (fun b => FragOK s d me a b) c2.2 acc
        (fun b hb st' hI hs => by
          obtain ⟨m', v', q'⟩ := ih.bf a b me st' P r1 r2 _ rfl hs.1 hs.2 hI.1 hsafe (g1 a ha) (g2 b hb)
          exact ⟨⟨m', v'.trans hI.2⟩, q'⟩)
        ⟨hn, hs⟩ hI)
    hnil hns ⟨mb, v0⟩
  refine ⟨mc, vc, fun x y hx hy hk => ?_⟩
  have dx := mem_decomp s d _ sel1 x hx
  have dy := mem_decomp s d _ sel2 y hy
  rw [hc1] at dx
  rw [hc2] at dy
  rcases dx with hx | ⟨f, hf, hx⟩
  · rcases dy with hy | ⟨g, hg, hy⟩
    · exact Or.inr (q0 x y hx hy hk)
    · exact Or.inr (qa g hg x y hx hy hk)
  · rcases dy with hy | ⟨g, hg, hy⟩
    · exact Or.inr (fun hf' => qb f hf y x hy hx hk.symm hf'.symm)
    · exact (qc f hf g hg).mono (Nat.le_min.2 ⟨Nat.le_trans (Nat.succ_le_succ (Nat.min_le_left _ _)) (g1 f hf),
        Nat.le_trans (Nat.succ_le_succ (Nat.min_le_right _ _)) (g2 g hg)⟩) x y hx hy hk

end
section
variable (s : Schema) (d : Document) (hac : ¬ FragmentCycle d) (n : Nat) (ih : CompleteAt s d n)
include hac ih

theorem step_ff (fm : FieldMap) (nm : Name) (me : Bool) (st : MState) (P : Pend) (r1 r2 : Nat) (res : MRes)
    (heq : fieldsAndFragment s d (n + 1) fm nm me st = res) (hnil : res.1 = []) (hns : res.2.stuck = false)
    (kfm : KeyOk fm) (hmemo : MemoOK s d P st.compared) (hsafe : Safe d P r1 r2) (hfm : FMR d fm r1) (hnm : Dr d nm + 1 ≤ r2)
    (hvis : ∀ h ∈ st.visited, Dr d h < Dr d nm → FFOK s d fm h me) :
    MemoOK s d P res.2.compared ∧ FFOK s d fm nm me ∧ ∀ h ∈ res.2.visited, h ∈ st.visited ∨ FFOK s d fm h me := by
  cases hfrag : d.fragByName nm with
  | none =>
    rw [fieldsAndFragment_undefined s d n fm me st hfrag] at heq
    subst heq
    exact ⟨hmemo, fun x y _ hy _ => absurd hy (not_memFrag_of_undefined s d hfrag y), fun h hh => Or.inl hh⟩
  | some frag =>
    rw [fieldsAndFragment_unstuck s d n fm me (unstuck_of (stuck_ff s d (n + 1) fm nm me st) (heq ▸ hns)) hfrag] at heq
    obtain ⟨c2, hc2⟩ : ∃ c, referencedFieldsAndFragmentNames s frag = c := ⟨_, rfl⟩
    obtain ⟨k2, nd2, f2, g2⟩ := ref_facts s d hac hfrag hc2
    rw [hc2] at heq
    by_cases hself : c2.2.contains nm = true
    · exact absurd (g2 nm (List.contains_iff_mem.1 hself)) (Nat.not_succ_le_self _)
    rw [if_neg hself] at heq
    subst heq
    have okS := stepOk_visit (fun fn => fieldsAndFragment s d n fm fn me) (fun fn => stuck_ff s d n fm fn me)
    have s0 := foldl_silent okS _ _ ⟨hnil, hns⟩
    have hsafe' : Safe d P r1 (Dr d nm) := hsafe.mono (Nat.le_refl _) (Nat.le_of_succ_le hnm)
    obtain ⟨m0, v0, q0⟩ := ih.cb me fm c2.1 st P r1 (Dr d nm) _ rfl s0.1 s0.2 kfm k2 nd2 hmemo hsafe' hfm f2
    -- the visited names are the caller's, or were compared completely with `fm` on the way
    obtain ⟨⟨ma, va⟩, qa⟩ := foldl_inv okS
      (fun st' => MemoOK s d P st'.compared ∧ ∀ h ∈ st'.visited, h ∈ st.visited ∨ FFOK s d fm h me)
      (fun g => FFOK s d fm g me) c2.2 _
      (fun g hg acc hI hn hs => by
        have hgr := g2 g hg
        have old : ∀ h ∈ acc.2.visited, Dr d h < Dr d g → FFOK s d fm h me :=
          fun h hh hlt => (hI.2 h hh).elim (fun h' => hvis h h' (Nat.lt_trans hlt hgr)) id
        unfold visitStep at hn hs ⊢
        by_cases hc : acc.2.visited.contains g = true
        · rw [if_pos hc] at hs ⊢
          exact ⟨hI, (hI.2 g (List.contains_iff_mem.1 hc)).elim (fun h => hvis g h hgr) id⟩
        · rw [if_neg hc] at hn hs ⊢
          obtain ⟨m', q', v'⟩ := ih.ff fm g me { acc.2 with visited := acc.2.visited ++ [g] } P r1 (Dr d nm) _ rfl
            (List.append_eq_nil_iff.1 hn).2 hs kfm hI.1 hsafe' hfm hgr
            (fun h hh hlt => by
              rcases List.mem_append.1 hh with hh | hh
              · exact old h hh hlt
              · cases List.mem_singleton.1 hh; exact absurd hlt (Nat.lt_irrefl _))
          refine ⟨⟨m', fun h hh => ?_⟩, q'⟩
          rcases v' h hh with h' | h'
          · rcases List.mem_append.1 h' with h' | h'
            · exact hI.2 h h'
            · cases List.mem_singleton.1 h'; exact Or.inr q'
          · exact Or.inr h')
      hnil hns ⟨m0, fun h hh => Or.inl (v0 ▸ hh)⟩
    refine ⟨ma, fun x y hx hy hk => ?_, va⟩
    rcases memFrag_cases s d hfrag hc2 hy with hy | ⟨g, hg, hy⟩
    · exact q0 x y hx hy hk
    · exact qa g hg x y hx hy hk

theorem step_bf (n1 n2 : Name) (me : Bool) (st : MState) (P : Pend) (r1 r2 : Nat) (res : MRes)
    (heq : betweenFragments s d (n + 1) n1 n2 me st = res) (hnil : res.1 = []) (hns : res.2.stuck = false)
    (hmemo : MemoOK s d P st.compared) (hsafe : Safe d P r1 r2) (hn1 : Dr d n1 + 1 ≤ r1) (hn2 : Dr d n2 + 1 ≤ r2) :
    MemoOK s d P res.2.compared ∧ res.2.visited = st.visited ∧ FragOK s d me n1 n2 := by
  have hst := unstuck_of (stuck_bf s d (n + 1) n1 n2 me st) (heq ▸ hns)
  by_cases hne : (n1 == n2) = true
  · rw [betweenFragments_skip s d n st (Or.inl hne)] at heq
    subst heq
    cases eq_of_beq hne
    exact ⟨hmemo, rfl, fun x y hx hy _ => Or.inl ⟨n1, Nat.lt_succ_of_le (Nat.le_of_eq (Nat.min_self _).symm), hx, hy⟩⟩
  by_cases hcont : st.compared.containsPair n1 n2 me = true
  · rw [betweenFragments_skip s d n st (Or.inr hcont)] at heq
    subst heq
    exact ⟨hmemo, rfl, hmemo.hit hsafe hn1 hn2 hcont⟩
  -- the comparison is made, with the pair entered as pending
  rw [Bool.not_eq_true] at hne hcont
  have hmemo1 := hmemo.insertPair (n1 := n1) (n2 := n2) (me := me)
  by_cases hund : d.fragByName n1 = none ∨ d.fragByName n2 = none
  · rw [betweenFragments_undefined s d n hst hne hcont hund] at heq
    subst heq
    have hok := fragOK_of_undefined s d me n1 n2 hund
    exact ⟨hmemo1.close hok, rfl, hok⟩
  obtain ⟨fr1, hf1⟩ := Option.ne_none_iff_exists'.1 fun h => hund (Or.inl h)
  obtain ⟨fr2, hf2⟩ := Option.ne_none_iff_exists'.1 fun h => hund (Or.inr h)
  rw [betweenFragments_unstuck s d n hst hne hcont hf1 hf2] at heq
  obtain ⟨c1, hc1⟩ : ∃ c, referencedFieldsAndFragmentNames s fr1 = c := ⟨_, rfl⟩
  obtain ⟨c2, hc2⟩ : ∃ c, referencedFieldsAndFragmentNames s fr2 = c := ⟨_, rfl⟩
  rw [hc1, hc2] at heq
  subst heq
  obtain ⟨k1, _, f1, g1⟩ := ref_facts s d hac hf1 hc1
  obtain ⟨k2, nd2, f2, g2⟩ := ref_facts s d hac hf2 hc2
  have sa := runAll_silent (fun x => stuck_bf s d n x n2 me) _ _ ⟨hnil, hns⟩
  have s0 := runAll_silent (fun x => stuck_bf s d n n1 x me) _ _ sa
  have safe1 : Safe d (((n1, n2), me) :: ((n2, n1), me) :: P) (Dr d n1 + 1) (Dr d n2) :=
    hsafe.pending hn1 (Nat.le_of_succ_le hn2) (Nat.le_of_eq (Nat.add_right_comm _ _ _))
  have safe2 : Safe d (((n1, n2), me) :: ((n2, n1), me) :: P) (Dr d n1) (Dr d n2 + 1) :=
    hsafe.pending (Nat.le_of_succ_le hn1) hn2 (Nat.le_refl _)
  obtain ⟨m0, v0, q0⟩ := ih.cb me c1.1 c2.1 _ _ (Dr d n1) (Dr d n2) _ rfl s0.1 s0.2 k1 k2 nd2 hmemo1
    (safe2.mono (Nat.le_refl _) (Nat.le_succ _)) f1 f2
  obtain ⟨⟨ma, va⟩, qa⟩ := runAll_inv (fun x => stuck_bf s d n n1 x me)
    (fun st' => MemoOK s d (((n1, n2), me) :: ((n2, n1), me) :: P) st'.compared ∧ st'.visited = st.visited)
    (fun x => FragOK s d me n1 x) c2.2 _
    (fun x hx st' hI hs => by
      obtain ⟨m', v', q'⟩ := ih.bf n1 x me st' _ (Dr d n1 + 1) (Dr d n2) _ rfl hs.1 hs.2 hI.1 safe1 (Nat.le_refl _) (g2 x hx)
      exact ⟨⟨m', v'.trans hI.2⟩, q'⟩)
    sa ⟨m0, v0⟩
  obtain ⟨⟨mb, vb⟩, qb⟩ := runAll_inv (fun x => stuck_bf s d n x n2 me)
    (fun st' => MemoOK s d (((n1, n2), me) :: ((n2, n1), me) :: P) st'.compared ∧ st'.visited = st.visited)
    (fun x => FragOK s d me x n2) c1.2 _
    (fun x hx st' hI hs => by
      obtain ⟨m', v', q'⟩ := ih.bf x n2 me st' _ (Dr d n1) (Dr d n2 + 1) _ rfl hs.1 hs.2 hI.1 safe2 (g1 x hx) (Nat.le_refl _)
      exact ⟨⟨m', v'.trans hI.2⟩, q'⟩)
    ⟨hnil, hns⟩ ⟨ma, va⟩
  have hok : FragOK s d me n1 n2 := by
    intro x y hx hy hk
    rcases memFrag_cases s d hf2 hc2 hy with hy' | ⟨h, hh, hy'⟩
    · rcases memFrag_cases s d hf1 hc1 hx with hx' | ⟨g, hg, hx'⟩
      · exact Or.inr (q0 x y hx' hy' hk)
      · exact (qb g hg).mono (Nat.succ_le_succ (Nat.le_min.2
          ⟨Nat.le_trans (Nat.min_le_left _ _) (Nat.le_of_succ_le (g1 g hg)), Nat.min_le_right _ _⟩)) x y hx' hy hk
    · exact (qa h hh).mono (Nat.succ_le_succ (Nat.le_min.2
        ⟨Nat.min_le_left _ _, Nat.le_trans (Nat.min_le_right _ _) (Nat.le_of_succ_le (g2 h hh))⟩)) x y hx hy' hk
  exact ⟨mb.close hok, vb, hok⟩

end

theorem completeAt_succ (s : Schema) (d : Document) (hac : ¬ FragmentCycle d) (n : Nat) (ih : CompleteAt s d n) :
    CompleteAt s d (n + 1) where
  fc := step_fc s d n ih
  cb := step_cb s d n ih
  bs := step_bs s d n ih
  ff := step_ff s d hac n ih
  bf := step_bf s d hac n ih

theorem completeAt (s : Schema) (d : Document) (hac : ¬ FragmentCycle d) : ∀ n, CompleteAt s d n
  | 0 => completeAt_zero s d
  | n + 1 => completeAt_succ s d hac n (completeAt s d hac n)

end Gql
