/-
  Lemmas/Transform.lean — the transformer model, function by function, is
  `(Replace (map x) if changed x else Keep, sites x)`.
-/
import GqlVerif.Spec.Transform
import GqlVerif.Lemmas.Traverse
namespace Gql
open Gql.Spec

def trOf {α : Type} (changed : Bool) (a : α) : Tr α := if changed then .replace a else .keep

@[simp] theorem trOf_getD {α : Type} (c : Bool) (a b : α) : (trOf c a).getD b = if c then a else b := by
  cases c <;> rfl
@[simp] theorem trOf_shouldKeep {α : Type} (c : Bool) (a : α) : (trOf c a).shouldKeep = !c := by
  cases c <;> rfl
theorem trOf_not {α : Type} (c : Bool) (a : α) : (if !c then Tr.keep else .replace a) = trOf c a := by
  cases c <;> rfl

/-- "transformer result = (Replace (map x) if changed, Keep otherwise; sites)" and unchanged ⇒ identity -/
def Char {α : Type} (r : W (Tr α)) (changed : Bool) (mapped : α) (sites : List LogEntry) (x : α) : Prop :=
  r = (trOf changed mapped, sites) ∧ (changed = false → mapped = x)

namespace Char
variable {α : Type} {r : W (Tr α)} {c : Bool} {m x : α} {s : List LogEntry}

/-- what the caller of a transformer function reads off its result -/
theorem eqs (h : Char r c m s x) : r.1.shouldKeep = (!c) ∧ r.1.getD x = m ∧ r.2 = s := by
  obtain ⟨rfl, hid⟩ := h
  cases c
  · exact ⟨rfl, (hid rfl).symm, rfl⟩
  · exact ⟨rfl, rfl, rfl⟩

/-- A probe hook around a function logs its invocation and, on a hit, answers `Replace` with the
    rewrite `ren` of the node the function produced (of the original, if that was kept). -/
theorem probe (hook : Option Probe) (id : HookId) (key : Nat) (ren : Probe → α → α) (h : Char r c m s x)
    {m' : α} (hm : m' = match hook with | some p => if p.hit key then ren p m else m | none => m := by rfl)
    {s' : List LogEntry} (hs : siteOpt hook id key ++ s = s' := by rfl) :
    Char (match hook with
          | none => r
          | some p => ((if p.hit key then .replace (ren p (r.1.getD x)) else r.1), (id, key) :: r.2))
      (c || hitOpt hook key) m' s' x := by
  subst hm hs
  cases hook with
  | none => simpa [hitOpt, siteOpt] using h
  | some p =>
    simp only [hitOpt, siteOpt, h.eqs, List.singleton_append]
    cases p.hit key
    · exact ⟨by rw [h.1, Bool.or_false]; rfl, by simpa using h.2⟩
    · exact ⟨by rw [Bool.or_true]; rfl, by simp⟩

/-! A node rebuilt by `F` from the results for its children: kept if all of them are. -/
section
variable {β γ δ : Type} {r₁ : W (Tr β)} {c₁ : Bool} {m₁ x₁ : β} {s₁ : List LogEntry}
  {r₂ : W (Tr γ)} {c₂ : Bool} {m₂ x₂ : γ} {s₂ : List LogEntry} {r₃ : W (Tr δ)} {c₃ : Bool} {m₃ x₃ : δ} {s₃ : List LogEntry}

theorem map₂ (h₁ : Char r₁ c₁ m₁ s₁ x₁) (h₂ : Char r₂ c₂ m₂ s₂ x₂) (F : β → γ → α) :
    Char (if r₁.1.shouldKeep && r₂.1.shouldKeep then .keep else .replace (F (r₁.1.getD x₁) (r₂.1.getD x₂)), r₁.2 ++ r₂.2)
      (c₁ || c₂) (F m₁ m₂) (s₁ ++ s₂) (F x₁ x₂) := by
  refine ⟨by simp only [h₁.eqs, h₂.eqs, ← Bool.not_or, trOf_not], fun hc => ?_⟩
  rw [Bool.or_eq_false_iff] at hc
  rw [h₁.2 hc.1, h₂.2 hc.2]

theorem map₃ (h₁ : Char r₁ c₁ m₁ s₁ x₁) (h₂ : Char r₂ c₂ m₂ s₂ x₂) (h₃ : Char r₃ c₃ m₃ s₃ x₃) (F : β → γ → δ → α) :
    Char (if r₁.1.shouldKeep && r₂.1.shouldKeep && r₃.1.shouldKeep then .keep
        else .replace (F (r₁.1.getD x₁) (r₂.1.getD x₂) (r₃.1.getD x₃)), r₁.2 ++ r₂.2 ++ r₃.2)
      (c₁ || c₂ || c₃) (F m₁ m₂ m₃) (s₁ ++ s₂ ++ s₃) (F x₁ x₂ x₃) := by
  refine ⟨by simp only [h₁.eqs, h₂.eqs, h₃.eqs, ← Bool.not_or, trOf_not], fun hc => ?_⟩
  rw [Bool.or_eq_false_iff, Bool.or_eq_false_iff] at hc
  rw [h₁.2 hc.1.1, h₂.2 hc.1.2, h₃.2 hc.2]
end
end Char

section
variable {α : Type} {f : α → W (Tr α)} {g : α → α} {c : α → Bool} {sites : α → List LogEntry}

/-- State of the `transform_list` loop after the items `done`: nothing is copied before the first
    change; from then on the result holds every item so far, replaced or copied. -/
def ListInv (g : α → α) (c : α → Bool) (sites : α → List LogEntry) (done : List α) (acc : ListAcc α) : Prop :=
  acc.2 = done.flatMap sites ∧
    if done.any c then acc.1.1 = done.map g ∧ acc.1.2.1 = true
    else acc.1 = ([], false, done) ∧ done.map g = done

theorem ListInv.step {done : List α} {acc : ListAcc α} {x : α} (hinv : ListInv g c sites done acc)
    (hx : Char (f x) (c x) (g x) (sites x) x) : ListInv g c sites (done ++ [x]) (listStep acc x (f x)) := by
  obtain ⟨⟨r, ch, pre⟩, lg⟩ := acc
  obtain ⟨rfl, h⟩ := hinv
  obtain ⟨hf, hx⟩ := hx
  unfold ListInv
  cases hd : done.any c <;> rw [hd] at h
  · obtain ⟨h, hid⟩ := h
    cases h
    cases hc : c x
    · simp [listStep, hf, trOf, hd, hc, hid, hx hc]
    · simp [listStep, hf, trOf, hd, hc, hid]
  · obtain ⟨rfl, rfl⟩ := h
    cases hc : c x
    · simp [listStep, hf, trOf, hd, hc, hx hc]
    · simp [listStep, hf, trOf, hd, hc]

theorem ListInv.foldl : ∀ (rest : List α) {done : List α} {acc : ListAcc α}, ListInv g c sites done acc →
    (∀ x ∈ rest, Char (f x) (c x) (g x) (sites x) x) →
    ListInv g c sites (done ++ rest) (rest.foldl (fun acc item => listStep acc item (f item)) acc)
  | [], _, _, h, _ => by rwa [List.append_nil]
  | x :: xs, done, _, h, hf => by
    rw [List.forall_mem_cons] at hf
    rw [List.append_cons]
    exact ListInv.foldl xs (h.step hf.1) hf.2

theorem ListInv.result {l : List α} {acc : ListAcc α} (h : ListInv g c sites l acc) :
    Char (listResult acc) (l.any c) (l.map g) (l.flatMap sites) l := by
  obtain ⟨⟨r, ch, pre⟩, lg⟩ := acc
  obtain ⟨rfl, h⟩ := h
  cases hd : l.any c <;> simp only [hd, if_true, if_false, Bool.false_eq_true] at h
  · obtain ⟨h, hid⟩ := h
    cases h
    exact ⟨rfl, fun _ => hid⟩
  · obtain ⟨rfl, rfl⟩ := h
    exact ⟨rfl, nofun⟩

theorem Char.list {l : List α} (h : ∀ x ∈ l, Char (f x) (c x) (g x) (sites x) x) :
    Char (transformList f l) (l.any c) (l.map g) (l.flatMap sites) l :=
  (ListInv.foldl (done := []) l ⟨rfl, rfl, rfl⟩ h).result
end

/-- `transform_list`: Keep iff every item is kept; otherwise every item replaced or copied, in
    order; the hooks are invoked item by item in list order -/
theorem transformList_spec {α : Type} (f : α → W (Tr α)) (g : α → α) (c : α → Bool) (sites : α → List LogEntry)
    (hf : ∀ x, f x = (trOf (c x) (g x), sites x)) (hg : ∀ x, c x = false → g x = x) (l : List α) :
    transformList f l = (trOf (l.any c) (l.map g), l.flatMap sites) :=
  (Char.list fun x _ => ⟨hf x, hg x⟩).1

theorem char_value (h : Hooks) (v : Value) :
    Char (transformValue h v) (changedValue h v) (mapValue h v) (sitesValue h v) v :=
  Char.probe h.value .value (valueKey v) (fun p _ => p.value) (c := false) ⟨rfl, fun _ => rfl⟩ rfl (List.append_nil _)

theorem char_arg (h : Hooks) (a : Arg) :
    Char (transformArgument h a) (changedArg h a) (mapArg h a) (sitesArg h a) a :=
by
  refine Char.probe h.argument .argument a.1 (fun p a' => (p.marker, a'.2)) ?_
  obtain ⟨hv, hid⟩ := char_value h a.2
  unfold defaultTransformArgument
  rw [hv]
  cases hc : changedValue h a.2
  · exact ⟨rfl, fun _ => by rw [hid hc]⟩
  · exact ⟨rfl, nofun⟩

theorem char_args (h : Hooks) (args : List Arg) :
    Char (transformArguments h args) (args.any (changedArg h)) (args.map (mapArg h)) (args.flatMap (sitesArg h)) args :=
  .list fun a _ => char_arg h a

theorem char_directive (h : Hooks) (d : Directive) :
    Char (transformDirective h d) (changedDirective h d) (mapDirective h d) (sitesDirective h d) d :=
by
  refine Char.probe h.directive .directive (posKey d.pos) (fun p (d' : Directive) => { d' with name := p.marker }) ?_
  obtain ⟨ha, hid⟩ := char_args h d.args
  unfold defaultTransformDirective
  rw [ha]
  cases hc : d.args.any (changedArg h)
  · exact ⟨rfl, fun _ => by rw [hid hc]⟩
  · exact ⟨rfl, nofun⟩

theorem char_directives (h : Hooks) (ds : List Directive) :
    Char (transformDirectives h ds) (ds.any (changedDirective h)) (ds.map (mapDirective h)) (ds.flatMap (sitesDirective h)) ds :=
  .list fun d _ => char_directive h d

theorem char_varDef (h : Hooks) (v : VarDef) :
    Char (transformVariableDefinition h v) (changedVarDef h v) (mapVarDef h v) (sitesVarDef h v) v := by
  refine Char.probe h.varDef .varDef (posKey v.pos) (fun p (v' : VarDef) => { v' with name := p.marker }) ?_
  obtain ⟨pos, name, ty, dflt⟩ := v
  cases dflt with
  | none => exact ⟨rfl, fun _ => rfl⟩
  | some dv =>
    have hv := char_value h dv
    exact ⟨by simp only [defaultTransformVariableDefinition, hv.eqs, trOf_not]; rfl,
      fun hc => by simp only [Option.map_some, hv.2 hc]⟩

theorem char_varDefs (h : Hooks) (vs : List VarDef) :
    Char (transformVariableDefinitions h vs) (vs.any (changedVarDef h)) (vs.map (mapVarDef h)) (vs.flatMap (sitesVarDef h)) vs :=
  .list fun v _ => char_varDef h v

theorem selectionsAcc_eq_foldl (h : Hooks) : ∀ (l : List Selection) (acc : ListAcc Selection),
    transformSelectionsAcc h l acc = l.foldl (fun acc item => listStep acc item (transformSelection h item)) acc
  | [], acc => by simp [transformSelectionsAcc]
  | x :: xs, acc => by simp [transformSelectionsAcc, selectionsAcc_eq_foldl h xs]

theorem mapSelections_eq (h : Hooks) : ∀ l, mapSelections h l = l.map (mapSelection h)
  | [] => by simp [mapSelections]
  | x :: xs => by simp [mapSelections, mapSelections_eq h xs]
theorem changedSelections_eq (h : Hooks) : ∀ l, changedSelections h l = l.any (changedSelection h)
  | [] => by simp [changedSelections]
  | x :: xs => by simp [changedSelections, changedSelections_eq h xs]
theorem sitesSelections_eq (h : Hooks) : ∀ l, sitesSelections h l = l.flatMap (sitesSelection h)
  | [] => by simp [sitesSelections]
  | x :: xs => by simp [sitesSelections, sitesSelections_eq h xs]

abbrev SelChar (h : Hooks) (x : Selection) : Prop :=
  Char (transformSelection h x) (changedSelection h x) (mapSelection h x) (sitesSelection h x) x

theorem char_selSet_of (h : Hooks) (sel : List Selection) (hmem : ∀ x ∈ sel, SelChar h x) :
    Char (selectionSetResult h sel (transformSelectionsAcc h sel (([], false, []), [])))
      (changedSelSet h sel) (mapSelSet h sel) (sitesSelSet h sel) sel := by
  refine Char.probe h.selectionSet .selectionSet sel.length (fun p l => l ++ [markerField p.marker]) ?_
  rw [selectionsAcc_eq_foldl, mapSelections_eq, changedSelections_eq, sitesSelections_eq]
  exact Char.list hmem

theorem hookMatch_comm {α β : Type} (F : β → α) (hook : Option Probe) (key : Nat) (a : Probe → β) (b : β) :
    F (match hook with | some p => if p.hit key then a p else b | none => b) =
      match hook with | some p => if p.hit key then F (a p) else F b | none => F b := by
  cases hook with
  | none => rfl
  | some p => exact apply_ite F ..

theorem char_selections (h : Hooks) : (∀ x : Selection, SelChar h x) ∧ ∀ (l : List Selection), ∀ x ∈ l, SelChar h x := by
  refine sels_induction ?_ ?_ ?_ ?_ ?_
  · intro pos alias name args dirs sel ih
    refine Char.probe h.field .field (posKey pos)
      (fun p y => match y with | Selection.field q al _ as ds sl => .field q al p.marker as ds sl | other => other)
      ((char_selSet_of h sel ih).map₃ (char_args h args) (char_directives h dirs) fun sl as ds => .field pos alias name as ds sl)
      ?_ ?_
    · exact hookMatch_comm (Selection.field pos alias · _ _ _) ..
    · simp only [sitesSelection, sitesSelSet, List.append_assoc]
  · intro pos name dirs
    have hd := (char_directives h dirs).eqs
    refine Char.probe h.spread .spread (posKey pos)
      (fun p y => match y with | Selection.spread q _ ds => .spread q p.marker ds | other => other)
      (c := true) (m := .spread pos name (dirs.map (mapDirective h))) ⟨?_, nofun⟩ ?_
    · rw [hd.2.1, hd.2.2]
      rfl
    · exact hookMatch_comm (Selection.spread pos · _) ..
  · intro pos tc dirs sel ih
    refine Char.probe h.inlineFrag .inline (posKey pos)
      (fun p y => match y with | Selection.inline q _ ds sl => .inline q (some p.marker) ds sl | other => other)
      ((char_selSet_of h sel ih).map₂ (char_directives h dirs) fun sl ds => .inline pos tc ds sl)
      ?_ ?_
    · exact hookMatch_comm (Selection.inline pos · _ _) ..
    · simp only [sitesSelection, sitesSelSet, List.append_assoc]
  · exact nofun
  · intro y ys hy hys x hx
    cases hx with
    | head => exact hy
    | tail _ hx => exact hys x hx

theorem char_selection (h : Hooks) : ∀ x : Selection, SelChar h x := (char_selections h).1

theorem char_selSet (h : Hooks) (sel : List Selection) :
    Char (transformSelectionSetItems h sel) (changedSelSet h sel) (mapSelSet h sel) (sitesSelSet h sel) sel :=
  char_selSet_of h sel ((char_selections h).2 sel)

theorem char_operation (h : Hooks) (o : Operation) :
    Char (transformOperation h o) (changedOperation h o) (mapOperation h o) (sitesOperation h o) o := by
  refine Char.probe h.operation .operation (opKey o) (fun p o' => renameOp o' p.marker) ?_
  have hs := char_selSet h o.sel
  unfold defaultTransformOperation
  by_cases hk : (o.kind == .shorthand) = true
  · simp only [if_pos hk]
    exact ⟨by simp only [hs.eqs, trOf_not], fun hc => by rw [hs.2 hc]⟩
  · simp only [if_neg hk]
    exact hs.map₃ (char_directives h o.dirs) (char_varDefs h o.vars) fun sl ds vs => { o with dirs := ds, sel := sl, vars := vs }

theorem char_fragment (h : Hooks) (f : FragDef) :
    Char (transformFragment h f) (changedFragment h f) (mapFragment h f) (sitesFragment h f) f := by
  refine Char.probe h.fragment .fragment (posKey f.pos) (fun p (f' : FragDef) => { f' with name := p.marker }) ?_ rfl
    (List.append_assoc ..).symm
  exact (char_selSet h f.sel).map₂ (char_directives h f.dirs) fun sl ds => { f with dirs := ds, sel := sl }

theorem char_definition (h : Hooks) (x : Definition) :
    Char (transformDefinition h x) (changedDefinition h x) (mapDefinition h x) (sitesDefinition h x) x := by
  refine Char.probe h.definition .definition (defKey x)
    (fun p x' => match x' with
      | Definition.op o => .op (renameOp o p.marker)
      | .frag f => .frag { f with name := p.marker }) ?_
  cases x with
  | op o =>
    obtain ⟨ho, hid⟩ := char_operation h o
    simp only [defaultTransformDefinition, ho]
    cases hc : changedOperation h o
    · exact ⟨rfl, fun _ => by rw [hid hc]⟩
    · exact ⟨rfl, nofun⟩
  | frag f =>
    obtain ⟨hf, hid⟩ := char_fragment h f
    simp only [defaultTransformDefinition, hf]
    cases hc : changedFragment h f
    · exact ⟨rfl, fun _ => by rw [hid hc]⟩
    · exact ⟨rfl, nofun⟩

theorem docStep_eq (h : Hooks) (acc : (List Definition × Bool) × List LogEntry) (x : Definition) :
    docStep h acc x =
      ((acc.1.1 ++ [mapDefinition h x], acc.1.2 || changedDefinition h x), acc.2 ++ sitesDefinition h x) := by
  obtain ⟨hx, hid⟩ := char_definition h x
  unfold docStep
  rw [hx]
  cases hc : changedDefinition h x
  · rw [hid hc, Bool.or_false]
    rfl
  · rw [Bool.or_true]
    rfl

theorem docLoop_spec (h : Hooks) : ∀ (rest : List Definition) (acc : (List Definition × Bool) × List LogEntry),
    rest.foldl (docStep h) acc = ((acc.1.1 ++ rest.map (mapDefinition h), acc.1.2 || rest.any (changedDefinition h)),
      acc.2 ++ rest.flatMap (sitesDefinition h))
  | [], acc => by simp only [List.foldl_nil, List.map_nil, List.any_nil, List.flatMap_nil, List.append_nil, Bool.or_false]
  | x :: xs, acc => by
    simp only [List.foldl_cons, docLoop_spec h xs, docStep_eq, List.map_cons, List.any_cons, List.flatMap_cons,
      List.append_assoc, List.singleton_append, Bool.or_assoc]

theorem map_id_of_not_any {α : Type} {g : α → α} {c : α → Bool} {l : List α}
    (hg : ∀ x ∈ l, c x = false → g x = x) (h : l.any c = false) : l.map g = l := by
  rw [List.any_eq_false] at h
  exact (List.map_congr_left fun a ha => hg a ha (by simpa using h a ha)).trans (List.map_id l)

theorem char_document (h : Hooks) (d : Document) :
    Char (transformDocument h d) (changedDocument h d) (mapDocument h d) (hookSites h d) d := by
  refine ⟨?_, map_id_of_not_any fun x _ => (char_definition h x).2⟩
  unfold transformDocument
  rw [docLoop_spec]
  rfl

end Gql
