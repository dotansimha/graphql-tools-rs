/-
  Lemmas/WalkStep.lean — the induction principle of the environment-passing walk, the counterpart for
  traces of `Traversal.Step` for event lists.  A property `Q` of traces holds of the walk of every
  selection, definition and document (`Walk.Step.sels`, `.definition`, `.document`) once it holds of `[]`,
  passes to `++`, passes from a trace to that trace between the two callbacks of a spread, inline
  fragment, definition or document (`node`) and from the walk of a selection set's items to the walk of
  the selection set (`selSet`), holds of the walk of a directive and of variable definitions, and of the
  walk of a field once it holds of the walks of the field's directives and selection set (`directive`,
  `varDefs`, `field`).  An argument list is only asked about together with the callbacks of its owner:
  a rule that checks arguments against a slot the owner fills has nothing to say of the list alone.
  What is known on the way flows down: `I` of the environment (kept by `withType`, `withParent`,
  `withField`), `G` of the list of selections (`Hereditary`), `R` of the variable definitions.
  For a `Q` that treats every node alike and an `I` kept by `withInput`, `Walk.arguments` and
  `Walk.varDefs` give the walks of argument lists and variable definitions by the same three rules.
-/
import GqlVerif.Lemmas.Traverse
import GqlVerif.Model.Rules.Merge
namespace Gql

/-- `G` passes from a selection set to its tail and to the selection sets of its fields and inline fragments -/
structure Hereditary (G : List Selection → Prop) : Prop where
  tail : ∀ {x xs}, G (x :: xs) → G xs
  field : ∀ {pos alias name args dirs sel xs}, G (.field pos alias name args dirs sel :: xs) → G sel
  inline : ∀ {pos tc dirs sel xs}, G (.inline pos tc dirs sel :: xs) → G sel

theorem hereditary_true : Hereditary fun _ => True := ⟨fun _ => trivial, fun _ => trivial, fun _ => trivial⟩

/-- the nodes whose two callbacks stand around walks of directives, variable definitions, selection sets
    or definitions only -/
def Node.outer : Node → Bool
  | .spread _ | .inline _ | .operation _ | .fragmentDef _ | .document _ => true
  | _ => false

namespace Walk

section
variable {s : Schema} {I : Snap → Prop} {Q : Trace → Prop} (nil : Q []) (append : ∀ {a b}, Q a → Q b → Q (a ++ b))
  (node : ∀ (n : Node) {e : Snap} {t : Trace}, I e → Q t → Q ((.enter n, e) :: t ++ [(.leave n, e)]))
  (inp : ∀ e t, I e → I (e.withInput s t))
include nil append node inp

theorem value_values_objFields :
    (∀ v e, I e → Q (walkValue s e v)) ∧ (∀ vs e, I e → Q (walkValues s e vs)) ∧
      ∀ fs e, I e → Q (walkObjFields s e fs) :=
  have leaf {n : Node} {e : Snap} (h : I e) : Q [(.enter n, e), (.leave n, e)] := node n h nil
  values_induction (fun _ _ => leaf) (fun _ _ => leaf) (fun _ _ => leaf) (fun _ _ => leaf) (fun _ _ => leaf)
    (fun _ => leaf) (fun _ _ => leaf)
    (fun _ ih e h => node _ h (ih _ (inp e _ h))) (fun _ ih e h => node _ h (ih e h))
    (fun _ _ => nil) (fun _ _ hv hvs e h => append (hv e h) (hvs e h))
    (fun _ _ => nil) (fun k _ _ hv hfs e h =>
      have h' := inp e (objectFieldType s e.inpLit k) h
      append (node _ h' (hv _ h')) (hfs e h))

theorem arguments (defs : Option (List InputValueDef)) (e : Snap) (h : I e) : ∀ as, Q (walkArguments s defs e as)
  | [] => nil
  | a :: as =>
      have h' := inp e (argType defs a.1) h
      append (node _ h' ((value_values_objFields nil append node inp).1 a.2 _ h')) (arguments defs e h as)

theorem varDefs (e : Snap) (h : I e) : ∀ vs, Q (walkVarDefs s e vs)
  | [] => nil
  | v :: vs => by
      have h' := inp e (some v.ty) h
      refine append (node _ h' ?_) (varDefs e h vs)
      cases v.default with
      | none => exact nil
      | some dv => exact (value_values_objFields nil append node inp).1 dv _ h'

end

structure Step (s : Schema) (I : Snap → Prop) (G : List Selection → Prop) (R : VarDef → Prop) (Q : Trace → Prop) :
    Prop where
  nil : Q []
  append {a b : Trace} : Q a → Q b → Q (a ++ b)
  node {n : Node} {e : Snap} {t : Trace} : n.outer = true → I e → Q t → Q ((.enter n, e) :: t ++ [(.leave n, e)])
  selSet {e : Snap} {sel : List Selection} : I e → G sel → Q (walkSelections s e.withParent sel) →
    Q (walkSelectionSetWith e sel fun e' => walkSelections s e' sel)
  directive {e : Snap} (d : Directive) : I e → Q ((.enter (.directive d), e)
    :: walkArguments s ((s.directiveByName d.name).map (·.args)) e d.args ++ [(.leave (.directive d), e)])
  field {e e1 e2 : Snap} {td ts : Trace} (f : FieldNode) : I e → I e1 → I e2 → Q td → Q ts → Q ((.enter (.field f), e1)
    :: walkArguments s ((e.parent.bind (·.fieldByName f.name)).map (·.args)) e2 f.args ++ td ++ ts ++ [(.leave (.field f), e1)])
  varDefs {e : Snap} (vs : List VarDef) : I e → (∀ v ∈ vs, R v) → Q (walkVarDefs s e vs)
  withType {e : Snap} (t : Option Ty) : I e → I (e.withType s t)
  withParent {e : Snap} : I e → I e.withParent
  withField {e : Snap} (f : Option FieldDef) : I e → I (e.withField f)
  hered : Hereditary G

namespace Step
variable {s : Schema} {I : Snap → Prop} {G : List Selection → Prop} {R : VarDef → Prop} {Q : Trace → Prop}
  (h : Step s I G R Q)
include h

theorem directives {e : Snap} (he : I e) : ∀ ds, Q (walkDirectives s e ds)
  | [] => h.nil
  | d :: ds => h.append (h.directive d he) (directives he ds)

theorem sels : (∀ (x : Selection) (xs : List Selection) (e : Snap), I e → G (x :: xs) → Q (walkSelection s e x)) ∧
    ∀ (xs : List Selection) (e : Snap), I e → G xs → Q (walkSelections s e xs) := by
  refine sels_induction ?_ ?_ ?_ (fun _ _ _ => h.nil)
    fun x xs hx hxs e he hg => h.append (hx xs e he hg) (hxs e he (h.hered.tail hg))
  · intro pos alias name args dirs sel ih _ e he hg
    simp only [walkSelection]
    have h1 := h.withType ((e.parent.bind (·.fieldByName name)).map (·.ty)) he
    have h2 := h.withField (e.parent.bind (·.fieldByName name)) h1
    exact h.field ⟨pos, alias, name, args, dirs, sel⟩ he h1 h2 (h.directives h2 dirs)
      (h.selSet h2 (h.hered.field hg) (ih _ (h.withParent h2) (h.hered.field hg)))
  · intro pos name dirs _ e he _
    exact h.node rfl he (h.directives he dirs)
  · intro pos tc dirs sel ih _ e he hg
    simp only [walkSelection]
    have h1 : ∀ tc : Option Name, I (match tc with | some c => e.withType s (some (.named c)) | none => e)
      | none => he
      | some _ => h.withType _ he
    have h1 := h1 tc
    exact h.node rfl h1 (h.append (h.directives h1 dirs)
      (h.selSet h1 (h.hered.inline hg) (ih _ (h.withParent h1) (h.hered.inline hg))))

theorem definition {e : Snap} (he : I e) (x : Definition) (hg : G x.selections)
    (hv : ∀ o, x = .op o → ∀ v ∈ o.vars, R v) {t : Trace} (ht : walkDefinition s e x = some t) : Q t := by
  cases x with
  | frag f =>
    cases ht
    have h1 := h.withType (some (.named f.tc)) he
    exact h.node rfl h1 (h.append (h.directives h1 f.dirs) (h.selSet h1 hg (h.sels.2 f.sel _ (h.withParent h1) hg)))
  | op o =>
    obtain ⟨tn, _, rfl⟩ := Option.map_eq_some_iff.1 ht
    have h1 := h.withType (tn.map .named) he
    exact h.node rfl h1 (h.append (h.append (h.directives h1 o.dirs) (h.varDefs o.vars h1 (hv o rfl)))
      (h.selSet h1 hg (h.sels.2 o.sel _ (h.withParent h1) hg)))

theorem definitions {e : Snap} (he : I e) (ds : List Definition) (hg : ∀ x ∈ ds, G x.selections)
    (hv : ∀ o, Definition.op o ∈ ds → ∀ v ∈ o.vars, R v) {t : Trace} (ht : walkDefinitions s e ds = some t) : Q t := by
  induction ds generalizing t with
  | nil => cases ht; exact h.nil
  | cons x ds ih =>
    obtain ⟨a, b, ha, hb, rfl⟩ := walkDefinitions_cons_eq_some.1 ht
    exact h.append (h.definition he x (hg x List.mem_cons_self) (fun o ho => hv o (ho ▸ List.mem_cons_self)) ha)
      (ih (fun y hy => hg y (List.mem_cons_of_mem _ hy)) (fun o ho => hv o (List.mem_cons_of_mem _ ho)) hb)

theorem document {e : Snap} (he : I e) (d : Document) (hg : ∀ x ∈ d, G x.selections)
    (hv : ∀ o, Definition.op o ∈ d → ∀ v ∈ o.vars, R v) {t : Trace} (ht : walkDocument s e d = some t) : Q t := by
  obtain ⟨t', ht', rfl⟩ := Option.map_eq_some_iff.1 ht
  exact h.node rfl he (h.definitions he d hg hv ht')

end Step
end Walk
end Gql
