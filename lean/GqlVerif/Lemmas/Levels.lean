/-
  Lemmas/Levels.lean — which kinds of node occur in which part of a traversal: values < arguments
  < directives < selections < variable definitions < definitions < document; and the induction
  principle of the traversal: a property of event lists that holds of `[]`, is preserved by `++`
  and by putting a node around what is traversed inside it, holds of every traversal.
-/
import GqlVerif.Lemmas.Traverse
namespace Gql

def Ev.node : Ev → Node
  | .enter n => n
  | .leave n => n

def Node.level : Node → Nat
  | .nullValue | .scalar _ | .enumValue _ | .variable _ | .list _ | .object _ | .objectField _ => 0
  | .argument _ => 1
  | .directive _ => 2
  | .selectionSet _ | .field _ | .spread _ | .inline _ => 3
  | .varDef _ => 4
  | .operation _ | .fragmentDef _ => 5
  | .document _ => 6

/-- what is traversed between `enter n` and `leave n` -/
def Node.inside : Node → List Ev
  | .document d => traverseDefinitions d
  | .operation o => traverseDirectives o.dirs ++ traverseVarDefs o.vars ++ traverseSelectionSet o.sel
  | .fragmentDef f => traverseDirectives f.dirs ++ traverseSelectionSet f.sel
  | .varDef v => match v.default with | some dv => traverseValue dv | none => []
  | .directive d => traverseArguments d.args
  | .argument a => traverseValue a.2
  | .selectionSet sel => traverseSelections sel
  | .field f => traverseArguments f.args ++ traverseDirectives f.dirs ++ traverseSelectionSet f.sel
  | .spread sp => traverseDirectives sp.dirs
  | .inline i => traverseDirectives i.dirs ++ traverseSelectionSet i.sel
  | .list vs => traverseValues vs
  | .object fs => traverseObjFields fs
  | .objectField f => traverseValue f.2
  | .nullValue | .scalar _ | .enumValue _ | .variable _ => []

/-- `Q` holds of `[]`, is preserved by `++` and by putting a node of level at most `k` around what
    is traversed inside it.  Such a `Q` holds of the traversal of every part of a document whose
    nodes are of level at most `k`. -/
structure Traversal.Step (Q : List Ev → Prop) (k : Nat) : Prop where
  nil : Q []
  append : ∀ {a b}, Q a → Q b → Q (a ++ b)
  node : ∀ n : Node, n.level ≤ k → Q n.inside → Q (.enter n :: (n.inside ++ [.leave n]))

namespace Traversal.Step
variable {Q : List Ev → Prop} {k : Nat} (h : Step Q k)
include h

theorem value_values_objFields :
    (∀ v, Q (traverseValue v)) ∧ (∀ vs, Q (traverseValues vs)) ∧ ∀ fs, Q (traverseObjFields fs) :=
  values_induction
    (fun x => h.node (.variable x) (Nat.zero_le k) h.nil)
    (fun i => h.node (.scalar (.int i)) (Nat.zero_le k) h.nil)
    (fun x => h.node (.scalar (.float x)) (Nat.zero_le k) h.nil)
    (fun x => h.node (.scalar (.str x)) (Nat.zero_le k) h.nil)
    (fun b => h.node (.scalar (.bool b)) (Nat.zero_le k) h.nil)
    (h.node .nullValue (Nat.zero_le k) h.nil)
    (fun x => h.node (.enumValue x) (Nat.zero_le k) h.nil)
    (fun vs ih => h.node (.list vs) (Nat.zero_le k) ih)
    (fun fs ih => h.node (.object fs) (Nat.zero_le k) ih)
    h.nil (fun _ _ hv hvs => h.append hv hvs)
    h.nil (fun x v _ hv hfs => h.append (h.node (.objectField (x, v)) (Nat.zero_le k) hv) hfs)

theorem value : ∀ v, Q (traverseValue v) := h.value_values_objFields.1
theorem values : ∀ vs, Q (traverseValues vs) := h.value_values_objFields.2.1
theorem objFields : ∀ fs, Q (traverseObjFields fs) := h.value_values_objFields.2.2

theorem arguments (hk : 1 ≤ k) : ∀ as, Q (traverseArguments as)
  | [] => h.nil
  | a :: as => by
      simp only [traverseArguments, List.cons_append]
      exact h.append (h.node (.argument a) hk (h.value a.2)) (arguments hk as)

theorem directives (hk : 2 ≤ k) : ∀ ds, Q (traverseDirectives ds)
  | [] => h.nil
  | d :: ds => by
      simp only [traverseDirectives, List.cons_append]
      exact h.append (h.node (.directive d) hk (h.arguments (Nat.le_of_succ_le hk) d.args)) (directives hk ds)

theorem varDefs (hk : 4 ≤ k) : ∀ vs, Q (traverseVarDefs vs)
  | [] => h.nil
  | v :: vs => by
      simp only [traverseVarDefs, List.cons_append]
      refine h.append (h.node (.varDef v) hk ?_) (varDefs hk vs)
      show Q (match v.default with | some dv => traverseValue dv | none => [])
      cases v.default with
      | none => exact h.nil
      | some dv => exact h.value dv

theorem selection_selections (hk : 3 ≤ k) :
    (∀ x, Q (traverseSelection x)) ∧ ∀ xs, Q (traverseSelections xs) :=
  have hd := h.directives (Nat.le_of_succ_le hk)
  sels_induction
    (fun pos alias name args dirs sel ih => h.node (.field ⟨pos, alias, name, args, dirs, sel⟩) hk
      (h.append (h.append (h.arguments (Nat.le_trans (by decide) hk) args) (hd dirs))
        (h.node (.selectionSet sel) hk ih)))
    (fun pos name dirs => h.node (.spread ⟨pos, name, dirs⟩) hk (hd dirs))
    (fun pos tc dirs sel ih => h.node (.inline ⟨pos, tc, dirs, sel⟩) hk
      (h.append (hd dirs) (h.node (.selectionSet sel) hk ih)))
    h.nil (fun _ _ hx hxs => h.append hx hxs)

theorem selection (hk : 3 ≤ k) : ∀ x, Q (traverseSelection x) := (h.selection_selections hk).1
theorem selections (hk : 3 ≤ k) : ∀ xs, Q (traverseSelections xs) := (h.selection_selections hk).2

theorem selectionSet (hk : 3 ≤ k) (sel : List Selection) : Q (traverseSelectionSet sel) :=
  h.node (.selectionSet sel) hk (h.selections hk sel)

theorem definition (hk : 5 ≤ k) (x : Definition) : Q (traverseDefinition x) := by
  have hd := h.directives (Nat.le_trans (by decide) hk)
  have hs := h.selectionSet (Nat.le_trans (by decide) hk)
  cases x with
  | frag f =>
    simp only [traverseDefinition, List.cons_append]
    exact h.node (.fragmentDef f) hk (h.append (hd f.dirs) (hs f.sel))
  | op o =>
    simp only [traverseDefinition, List.cons_append]
    exact h.node (.operation o) hk
      (h.append (h.append (hd o.dirs) (h.varDefs (Nat.le_of_succ_le hk) o.vars)) (hs o.sel))

theorem definitions (hk : 5 ≤ k) : ∀ ds, Q (traverseDefinitions ds)
  | [] => h.nil
  | x :: ds => by
      simp only [traverseDefinitions]; exact h.append (h.definition hk x) (definitions hk ds)

theorem document (hk : 6 ≤ k) (d : Document) : Q (traverseDocument d) :=
  h.node (.document d) hk (h.definitions (Nat.le_of_succ_le hk) d)

end Traversal.Step

/-- every node of the list is at level `n` or below -/
def Below (n : Nat) (l : List Ev) : Prop := ∀ e ∈ l, e.node.level ≤ n

theorem Below.nil {n : Nat} : Below n [] := fun _ h => nomatch h
theorem Below.append {n : Nat} {a b : List Ev} (ha : Below n a) (hb : Below n b) : Below n (a ++ b) :=
  fun e he => (List.mem_append.1 he).elim (ha e) (hb e)
theorem Below.cons {n : Nat} {e : Ev} {l : List Ev} (he : e.node.level ≤ n) (hl : Below n l) : Below n (e :: l) := by
  intro x hx; rcases List.mem_cons.1 hx with rfl | h; exact he; exact hl x h
theorem Below.mono {n m : Nat} {l : List Ev} (h : Below n l) (hnm : n ≤ m) : Below m l :=
  fun e he => Nat.le_trans (h e he) hnm

theorem Below.step (k : Nat) : Traversal.Step (Below k) k where
  nil := Below.nil
  append := Below.append
  node _ hn h := Below.cons hn (Below.append h (Below.cons hn Below.nil))

theorem below_value : ∀ v, Below 0 (traverseValue v) := (Below.step 0).value
theorem below_values : ∀ vs, Below 0 (traverseValues vs) := (Below.step 0).values
theorem below_objFields : ∀ fs, Below 0 (traverseObjFields fs) :=
  (Below.step 0).objFields
theorem below_arguments : ∀ as, Below 1 (traverseArguments as) :=
  (Below.step 1).arguments (Nat.le_refl 1)
theorem below_directives : ∀ ds, Below 2 (traverseDirectives ds) :=
  (Below.step 2).directives (Nat.le_refl 2)
theorem below_selection : ∀ x, Below 3 (traverseSelection x) :=
  (Below.step 3).selection (Nat.le_refl 3)
theorem below_selectionSet (sel : List Selection) : Below 3 (traverseSelectionSet sel) :=
  (Below.step 3).selectionSet (Nat.le_refl 3) sel
theorem below_varDefs (vs : List VarDef) : Below 4 (traverseVarDefs vs) :=
  (Below.step 4).varDefs (Nat.le_refl 4) vs

theorem Below.filterMap_nil {β : Type} {n : Nat} {l : List Ev} (h : Below n l) (π : Ev → Option β)
    (hπ : ∀ e, e.node.level ≤ n → π e = none) : l.filterMap π = [] :=
  List.filterMap_eq_nil_iff.2 fun e he => hπ e (h e he)

end Gql
