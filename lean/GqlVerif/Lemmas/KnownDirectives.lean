/-
  Lemmas/KnownDirectives.lean — the `recent_location` slot of known_directives.rs: whenever the
  directives of a node are visited the slot holds that node's location.  Proved by running the
  rule's fold over the (schema-independent) event traversal, structurally.
-/
import GqlVerif.Spec.Directives
import GqlVerif.Lemmas.TraverseMem
import GqlVerif.Lemmas.TraverseNodes
namespace Gql
open Gql.Spec

abbrev KdAcc := Option DirLoc × List Err

/-- the rule's step on a bare event (it never looks at the context answers) -/
def kdStep (s : Schema) (acc : KdAcc) (ev : Ev) : KdAcc :=
  knownDirectives.step s [] acc (ev, default)

theorem kd_fold_eq (s : Schema) (d : Document) (tr : Trace) (acc : knownDirectives.σ × List Err) :
    tr.foldl (knownDirectives.step s d) acc = (tr.map Prod.fst).foldl (kdStep s) acc :=
  (List.foldl_map (f := Prod.fst) (g := kdStep s)).symm

/-- what `enter_directive` reports when the slot holds `recent` -/
def dirCheck (s : Schema) (recent : Option DirLoc) (dir : Directive) : List Err :=
  match s.directiveMapGet dir.name with
  | some dd =>
    (match recent with
     | some loc =>
       if !dd.locations.any (fun l => l == loc) then
         [⟨.knownDirectives, [dir.pos], .misplacedDirective dir.name loc⟩]
       else []
     | none => [])
  | none => [⟨.knownDirectives, [dir.pos], .unknownDirective dir.name⟩]

theorem kdStep_enter_directive (s : Schema) (r : Option DirLoc) (acc : List Err) (dir : Directive) :
    kdStep s (r, acc) (.enter (.directive dir)) = (r, acc ++ dirCheck s r dir) := by
  simp only [kdStep, Rule.step, knownDirectives, dirCheck]
  cases s.directiveMapGet dir.name with
  | none => rfl
  | some dd =>
    cases r with
    | none => rfl
    | some loc => dsimp only; split <;> rfl

/-- the location a node lends to the directives attached to it (`recent_location` while they are visited) -/
def Node.dirLoc : Node → Option DirLoc
  | .operation o => some (opLocation o.kind)
  | .field _ => some .field
  | .fragmentDef _ => some .fragmentDefinition
  | .spread _ => some .fragmentSpread
  | .inline _ => some .inlineFragment
  | _ => none

theorem kdStep_loc (s : Schema) {n : Node} {l : DirLoc} (h : n.dirLoc = some l) (r : Option DirLoc)
    (acc : List Err) :
    kdStep s (r, acc) (.enter n) = (some l, acc) ∧ kdStep s (r, acc) (.leave n) = (none, acc) := by
  cases n with
  | operation | field | fragmentDef | spread | inline =>
    cases h; exact ⟨Rule.step_of_on rfl, Rule.step_of_on rfl⟩
  | _ => cases h

theorem kdStep_leave_directive (s : Schema) (acc : KdAcc) (dir : Directive) :
    kdStep s acc (.leave (.directive dir)) = acc :=
  Rule.step_of_on rfl

theorem kdStep_other (s : Schema) (acc : KdAcc) {n : Node} (h : n.dirLoc = none) (hd : (n matches .directive _) = false) :
    kdStep s acc (.enter n) = acc ∧ kdStep s acc (.leave n) = acc := by
  cases n with
  | operation | field | fragmentDef | spread | inline => cases h
  | directive d => cases hd
  | _ => exact ⟨Rule.step_of_on rfl, Rule.step_of_on rfl⟩

/-- events that leave the slot alone -/
def KdNeutral (l : List Ev) : Prop := ∀ (s : Schema) (acc : KdAcc), l.foldl (kdStep s) acc = acc

theorem KdNeutral.of_forall {l : List Ev} (h : ∀ ev ∈ l, ∀ s acc, kdStep s acc ev = acc) : KdNeutral l := by
  intro s acc
  induction l with
  | nil => rfl
  | cons ev l ih =>
    rw [List.foldl_cons, h ev List.mem_cons_self]
    exact ih fun e he => h e (List.mem_cons_of_mem _ he)

theorem kd_atNode {n : Node} (h : n.dirLoc = none) (hd : (n matches .directive _) = false) :
    AtNode (fun ev => ∀ s acc, kdStep s acc ev = acc) n :=
  ⟨fun s acc => (kdStep_other s acc h hd).1, fun s acc => (kdStep_other s acc h hd).2⟩

theorem kd_atValue (n : Node) (h : n.isValue = true) : AtNode (fun ev => ∀ s acc, kdStep s acc ev = acc) n := by
  cases n <;> first | contradiction | exact kd_atNode rfl rfl

theorem kd_values : ∀ vs, KdNeutral (traverseValues vs) :=
  fun vs => .of_forall (forall_traverseValues kd_atValue vs)
theorem kd_objFields : ∀ fs, KdNeutral (traverseObjFields fs) :=
  fun fs => .of_forall (forall_traverseObjFields kd_atValue fs)
theorem kd_arguments (as : List Arg) : KdNeutral (traverseArguments as) :=
  .of_forall (forall_traverseArguments kd_atValue (fun _ => kd_atNode rfl rfl) as)
theorem kd_varDefs (vs : List VarDef) : KdNeutral (traverseVarDefs vs) :=
  .of_forall (forall_traverseVarDefs kd_atValue (fun _ => kd_atNode rfl rfl) vs)

/-- directives of a node: each is checked against the slot as it stands; the slot is untouched -/
theorem kd_directives (s : Schema) (r : Option DirLoc) (ds : List Directive) : ∀ acc : List Err,
    (traverseDirectives ds).foldl (kdStep s) (r, acc) = (r, acc ++ ds.flatMap (dirCheck s r)) := by
  induction ds with
  | nil => intro acc; rw [List.flatMap_nil, List.append_nil]; rfl
  | cons dir ds ih =>
    intro acc
    simp only [traverseDirectives, List.foldl_append, List.foldl_cons, List.foldl_nil]
    rw [kdStep_enter_directive, kd_arguments dir.args, kdStep_leave_directive, ih, List.flatMap_cons,
      List.append_assoc]

mutual
/-- what the rule reports inside a selection (structural) -/
def kdSelErrs (s : Schema) : Selection → List Err
  | .field _ _ _ _ dirs sel => dirs.flatMap (dirCheck s (some .field)) ++ kdSelsErrs s sel
  | .spread _ _ dirs => dirs.flatMap (dirCheck s (some .fragmentSpread))
  | .inline _ _ dirs sel => dirs.flatMap (dirCheck s (some .inlineFragment)) ++ kdSelsErrs s sel
def kdSelsErrs (s : Schema) : List Selection → List Err
  | [] => []
  | x :: xs => kdSelErrs s x ++ kdSelsErrs s xs
end

theorem kdStep_selectionSet (s : Schema) (acc : KdAcc) (sel : List Selection) :
    kdStep s acc (.enter (.selectionSet sel)) = acc ∧ kdStep s acc (.leave (.selectionSet sel)) = acc :=
  kdStep_other s acc rfl rfl

theorem kd_sels (s : Schema) :
    (∀ (x : Selection) (r : Option DirLoc) (acc : List Err),
      (traverseSelection x).foldl (kdStep s) (r, acc) = (none, acc ++ kdSelErrs s x)) ∧
    ∀ (xs : List Selection) (r : Option DirLoc) (acc : List Err),
      (traverseSelections xs).foldl (kdStep s) (r, acc) = (if xs = [] then r else none, acc ++ kdSelsErrs s xs) := by
  refine sels_induction ?_ ?_ ?_ ?_ ?_
  · intro pos alias name args dirs sel ih r acc
    simp only [traverseSelection, List.foldl_append, List.foldl_cons, List.foldl_nil]
    rw [(kdStep_loc s (n := .field _) rfl ..).1, kd_arguments args, kd_directives, (kdStep_selectionSet ..).1,
      ih, (kdStep_selectionSet ..).2, (kdStep_loc s (n := .field _) rfl ..).2, kdSelErrs, List.append_assoc]
  · intro pos name dirs r acc
    simp only [traverseSelection, List.foldl_append, List.foldl_cons, List.foldl_nil]
    rw [(kdStep_loc s (n := .spread _) rfl ..).1, kd_directives, (kdStep_loc s (n := .spread _) rfl ..).2,
      kdSelErrs]
  · intro pos tc dirs sel ih r acc
    simp only [traverseSelection, List.foldl_append, List.foldl_cons, List.foldl_nil]
    rw [(kdStep_loc s (n := .inline _) rfl ..).1, kd_directives, (kdStep_selectionSet ..).1,
      ih, (kdStep_selectionSet ..).2, (kdStep_loc s (n := .inline _) rfl ..).2, kdSelErrs, List.append_assoc]
  · intro r acc
    rw [kdSelsErrs, List.append_nil]; rfl
  · intro x xs ihx ihxs r acc
    rw [traverseSelections, List.foldl_append, ihx, ihxs, kdSelsErrs, List.append_assoc,
      if_neg (List.cons_ne_nil x xs), ite_self]

theorem kd_selection (s : Schema) : ∀ (x : Selection) (r : Option DirLoc) (acc : List Err),
    (traverseSelection x).foldl (kdStep s) (r, acc) = (none, acc ++ kdSelErrs s x) :=
  (kd_sels s).1

theorem flatMap_dirCheck_map (s : Schema) (loc : DirLoc) (ds : List Directive) :
    (ds.map (·, loc)).flatMap (fun p => dirCheck s (some p.2) p.1) = ds.flatMap (dirCheck s (some loc)) :=
  List.flatMap_map ..

theorem kdErrs_eq (s : Schema) :
    (∀ x, kdSelErrs s x = (directivesOfSelection x).flatMap fun p => dirCheck s (some p.2) p.1) ∧
    ∀ xs, kdSelsErrs s xs = (directivesOfSelections xs).flatMap fun p => dirCheck s (some p.2) p.1 := by
  refine sels_induction ?_ ?_ ?_ ?_ ?_
  · intro _ _ _ _ dirs sel ih
    simp only [kdSelErrs, directivesOfSelection, List.flatMap_append, flatMap_dirCheck_map, ih]
  · intro _ _ dirs
    simp only [kdSelErrs, directivesOfSelection, flatMap_dirCheck_map]
  · intro _ _ dirs sel ih
    simp only [kdSelErrs, directivesOfSelection, List.flatMap_append, flatMap_dirCheck_map, ih]
  · rfl
  · intro x xs ihx ihxs
    simp only [kdSelsErrs, directivesOfSelections, List.flatMap_append, ihx, ihxs]

/-- errors inside a selection = the check applied to every directive with its node's location -/
theorem kdSelErrs_eq (s : Schema) :
    ∀ x, kdSelErrs s x = (directivesOfSelection x).flatMap fun p => dirCheck s (some p.2) p.1 :=
  (kdErrs_eq s).1

theorem opLocation_eq_opLoc (k : OpKind) : opLocation k = opLoc k := by cases k <;> rfl

/-- one definition: the slot ends empty, the errors are the checks of its directives -/
theorem kd_definition (s : Schema) (x : Definition) (r : Option DirLoc) (acc : List Err) :
    (traverseDefinition x).foldl (kdStep s) (r, acc)
      = (none, acc ++ (directivesOfDefinition x).flatMap fun p => dirCheck s (some p.2) p.1) := by
  cases x with
  | op o =>
    simp only [traverseDefinition, traverseSelectionSet, List.foldl_append, List.foldl_cons, List.foldl_nil]
    rw [(kdStep_loc s (n := .operation o) rfl ..).1, kd_directives, kd_varDefs o.vars, (kdStep_selectionSet ..).1,
      (kd_sels s).2 o.sel, (kdStep_selectionSet ..).2, (kdStep_loc s (n := .operation o) rfl ..).2,
      directivesOfDefinition, List.flatMap_append, flatMap_dirCheck_map, (kdErrs_eq s).2, opLocation_eq_opLoc,
      List.append_assoc]
  | frag f =>
    simp only [traverseDefinition, traverseSelectionSet, List.foldl_append, List.foldl_cons, List.foldl_nil]
    rw [(kdStep_loc s (n := .fragmentDef f) rfl ..).1, kd_directives, (kdStep_selectionSet ..).1,
      (kd_sels s).2 f.sel, (kdStep_selectionSet ..).2, (kdStep_loc s (n := .fragmentDef f) rfl ..).2,
      directivesOfDefinition, List.flatMap_append, flatMap_dirCheck_map, (kdErrs_eq s).2, List.append_assoc]

theorem kd_definitions (s : Schema) (ds : List Definition) : ∀ (r : Option DirLoc) (acc : List Err),
    ((traverseDefinitions ds).foldl (kdStep s) (r, acc)).2
      = acc ++ (ds.flatMap directivesOfDefinition).flatMap fun p => dirCheck s (some p.2) p.1 := by
  induction ds with
  | nil => exact fun r acc => (List.append_nil acc).symm
  | cons x xs ih =>
    intro r acc
    rw [traverseDefinitions, List.foldl_append, kd_definition s x r acc, ih, List.flatMap_cons,
      List.flatMap_append, List.append_assoc]

/-- the rule's whole report on the event traversal of a document -/
theorem kd_document (s : Schema) (d : Document) :
    ((traverseDocument d).foldl (kdStep s) (none, [])).2
      = (directivesAt d).flatMap fun p => dirCheck s (some p.2) p.1 := by
  simp only [traverseDocument, List.foldl_append, List.foldl_cons, List.foldl_nil]
  rw [(kdStep_other s _ (n := .document d) rfl rfl).1, (kdStep_other s _ (n := .document d) rfl rfl).2,
    kd_definitions, List.nil_append, directivesAt]

end Gql
