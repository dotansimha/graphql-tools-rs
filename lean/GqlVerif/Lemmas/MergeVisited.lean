/-
  Lemmas/MergeVisited.lean — the selection sets the walk visits: each is followed by the walk of its
  own items, under any condition that sub-selection sets inherit (`SelSets`; for spread-free documents
  of bounded depth: `SSC`); a field a selection set collects without following spreads is entered, and
  its own selection set is visited with exactly the parent type the spec collects it on.
-/
import GqlVerif.Lemmas.MergeRel
import GqlVerif.Lemmas.Levels
import GqlVerif.Lemmas.WalkStep
import GqlVerif.Lemmas.DefTrace
namespace Gql
open Gql.Spec

mutual
/-- every inline fragment's type condition is a declared type -/
def tcKnownSel (s : Schema) : Selection → Bool
  | .field _ _ _ _ _ sel => tcKnownSels s sel
  | .spread _ _ _ => true
  | .inline _ tc _ sel => (match tc with | some c => (s.typeByName c).isSome | none => true) && tcKnownSels s sel
def tcKnownSels (s : Schema) : List Selection → Bool
  | [] => true
  | x :: xs => tcKnownSel s x && tcKnownSels s xs
end

/-- what the merging proof needs of a selection set: no spreads, declared type conditions, bounded depth -/
def GoodSel (s : Schema) (D : Nat) (sel : List Selection) : Prop :=
  recursiveSpreads sel = [] ∧ tcKnownSels s sel = true ∧ selsDepth sel ≤ D

/-- the selection-set callbacks of the trace: same current and parent type, a good selection set,
    and the walk of its items is part of the trace -/
def SSC (s : Schema) (D : Nat) (tr : Trace) : Prop :=
  ∀ sel env, (Ev.enter (.selectionSet sel), env) ∈ tr →
    env.cur = env.parent ∧ GoodSel s D sel ∧ ∀ ev ∈ walkSelections s env sel, ev ∈ tr

/-- `SSC` with the condition on the selection set left open -/
def SelSets (G : List Selection → Prop) (s : Schema) (tr : Trace) : Prop :=
  ∀ sel env, (Ev.enter (.selectionSet sel), env) ∈ tr →
    env.cur = env.parent ∧ G sel ∧ ∀ ev ∈ walkSelections s env sel, ev ∈ tr

section
variable {G : List Selection → Prop} {s : Schema}

theorem SelSets.nil : SelSets G s [] := fun _ _ h => nomatch h

theorem SelSets.append {a b : Trace} (ha : SelSets G s a) (hb : SelSets G s b) : SelSets G s (a ++ b) := by
  intro sel env h
  rcases List.mem_append.1 h with h | h
  · obtain ⟨h1, h2, h3⟩ := ha sel env h
    exact ⟨h1, h2, fun ev hev => List.mem_append_left _ (h3 ev hev)⟩
  · obtain ⟨h1, h2, h3⟩ := hb sel env h
    exact ⟨h1, h2, fun ev hev => List.mem_append_right _ (h3 ev hev)⟩

theorem SelSets.cons {e : Ev × Snap} {t : Trace} (he : ∀ sel, e.1 ≠ .enter (.selectionSet sel))
    (ht : SelSets G s t) : SelSets G s (e :: t) := by
  intro sel env h
  rcases List.mem_cons.1 h with h | h
  · exact absurd (congrArg Prod.fst h).symm (he sel)
  · obtain ⟨h1, h2, h3⟩ := ht sel env h
    exact ⟨h1, h2, fun ev hev => List.mem_cons_of_mem _ (h3 ev hev)⟩

theorem SelSets.bracket {n : Node} {e : Snap} {t : Trace} (hn : ∀ sel, n ≠ .selectionSet sel) (ht : SelSets G s t) :
    SelSets G s ((.enter n, e) :: (t ++ [(.leave n, e)])) :=
  .cons (fun sel h => hn sel (Ev.enter.inj h)) (.append ht (.cons (fun _ h => Ev.noConfusion h) .nil))

theorem SelSets.of_below {t : Trace} (h : Below 2 (t.map Prod.fst)) : SelSets G s t := by
  intro sel env hm
  have := h _ (List.mem_map.2 ⟨_, hm, rfl⟩)
  simp [Ev.node, Node.level] at this

theorem selSets_arguments (defs : Option (List InputValueDef)) (e : Snap) (as : List Arg) :
    SelSets G s (walkArguments s defs e as) :=
  .of_below (by rw [walkArguments_events]; exact (below_arguments as).mono (by omega))

theorem selSets_varDefs (e : Snap) : ∀ vs : List VarDef, SelSets G s (walkVarDefs s e vs)
  | [] => .nil
  | v :: vs => by
      simp only [walkVarDefs, List.cons_append]
      refine .cons (by intro sel; simp) (.append (.append ?_ (.cons (by intro sel; simp) .nil)) (selSets_varDefs e vs))
      cases v.default with
      | none => exact .nil
      | some dv => exact .of_below (by rw [walkValue_events]; exact (below_value dv).mono (by omega))

theorem selSets_selectionSetWith (e : Snap) (sel : List Selection) (hg : G sel)
    (hin : SelSets G s (walkSelections s e.withParent sel)) :
    SelSets G s (walkSelectionSetWith e sel (fun e' => walkSelections s e' sel)) := by
  intro sel' env h
  simp only [walkSelectionSetWith, List.cons_append, List.mem_cons, List.mem_append, List.not_mem_nil, or_false] at h ⊢
  rcases h with h | h | h
  · -- the selection set itself
    obtain ⟨hs, rfl⟩ := Prod.mk.inj h
    obtain rfl : sel' = sel := by simpa using hs
    exact ⟨rfl, hg, fun ev hev => Or.inr (Or.inl hev)⟩
  · obtain ⟨a, b, c⟩ := hin sel' env h
    exact ⟨a, b, fun ev hev => Or.inr (Or.inl (c ev hev))⟩
  · cases congrArg Prod.fst h

theorem selSetsStep (hG : Hereditary G) : Walk.Step s (fun _ => True) G (fun _ => True) (SelSets G s) where
  nil := .nil
  append := .append
  node hn _ := .bracket fun _ h => by cases h; cases hn
  selSet _ hg := selSets_selectionSetWith _ _ hg
  directive d _ := .bracket (fun _ h => nomatch h) (selSets_arguments _ _ d.args)
  field f _ _ _ hd hs := .bracket (fun _ h => nomatch h) (.append (.append (selSets_arguments _ _ f.args) hd) hs)
  varDefs vs _ _ := selSets_varDefs _ vs
  withType _ _ := trivial
  withParent _ := trivial
  withField _ _ := trivial
  hered := hG

theorem selSets_sels (hG : Hereditary G) :
    (∀ (x : Selection) (xs : List Selection) (e : Snap), G (x :: xs) → SelSets G s (walkSelection s e x)) ∧
    ∀ (xs : List Selection) (e : Snap), G xs → SelSets G s (walkSelections s e xs) :=
  ⟨fun x xs e => (selSetsStep hG).sels.1 x xs e trivial, fun xs e => (selSetsStep hG).sels.2 xs e trivial⟩

theorem selSets_walkOf (hG : Hereditary G) (d : Document) (hd : ∀ x ∈ d, G x.selections) :
    SelSets G s (walkOf s d) := by
  unfold walkOf
  cases h : walkDocument s Snap.empty d with
  | none => exact .nil
  | some t => exact (selSetsStep hG).document trivial d hd (fun _ _ _ _ => trivial) h

end

theorem hereditary_tcKnown (s : Schema) : Hereditary (fun sel => tcKnownSels s sel = true) where
  tail h := (Bool.and_eq_true_iff.1 h).2
  field h := (Bool.and_eq_true_iff.1 h).1
  inline h := (Bool.and_eq_true_iff.1 (Bool.and_eq_true_iff.1 h).1).2

theorem hereditary_spreadFree : Hereditary (fun sel => recursiveSpreads sel = []) where
  tail h := (List.append_eq_nil_iff.1 h).2
  field h := (List.append_eq_nil_iff.1 h).1
  inline h := (List.append_eq_nil_iff.1 h).1

theorem hereditary_depth (D : Nat) : Hereditary (fun sel => selsDepth sel ≤ D) where
  tail h := Nat.le_trans (Nat.le_max_right _ _) h
  field h := Nat.le_trans (Nat.le_trans (Nat.le_add_left _ _) (Nat.le_max_left _ _)) h
  inline h := Nat.le_trans (Nat.le_trans (Nat.le_add_left _ _) (Nat.le_max_left _ _)) h

theorem Hereditary.and {G H : List Selection → Prop} (hG : Hereditary G) (hH : Hereditary H) :
    Hereditary (fun sel => G sel ∧ H sel) where
  tail h := ⟨hG.tail h.1, hH.tail h.2⟩
  field h := ⟨hG.field h.1, hH.field h.2⟩
  inline h := ⟨hG.inline h.1, hH.inline h.2⟩

theorem hereditary_goodSel (s : Schema) (D : Nat) : Hereditary (GoodSel s D) :=
  hereditary_spreadFree.and ((hereditary_tcKnown s).and (hereditary_depth D))

theorem ssc_selection (s : Schema) (D : Nat) : ∀ (x : Selection) (e : Snap),
    recursiveSpreadsSel x = [] → tcKnownSel s x = true → selDepth x ≤ D → SSC s D (walkSelection s e x) :=
  fun x e h1 h2 h3 => (selSets_sels (hereditary_goodSel s D)).1 x [] e
    ⟨by simp [recursiveSpreads, h1], by simp [tcKnownSels, h2], Nat.max_le.2 ⟨h3, Nat.zero_le _⟩⟩

theorem SSC.of_noSelSet {s : Schema} {D : Nat} {t : Trace} (h : ∀ e ∈ t, ∀ sel, e.1 ≠ .enter (.selectionSet sel)) : SSC s D t := by
  intro sel env hm
  exact absurd rfl (h _ hm sel)

theorem selsDepth_le_docDepth : ∀ (d : Document) (x : Definition), x ∈ d → selsDepth x.selections ≤ docDepth d
  | [], _, h => by simp at h
  | y :: ys, x, h => by
      simp only [docDepth]
      rcases List.mem_cons.1 h with rfl | h
      · exact Nat.le_max_left _ _
      · exact Nat.le_trans (selsDepth_le_docDepth ys x h) (Nat.le_max_right _ _)

theorem selset_depth_walk (s : Schema) (d : Document) {sel : List Selection} {env : Snap}
    (hm : (Ev.enter (.selectionSet sel), env) ∈ walkOf s d) : selsDepth sel ≤ docDepth d :=
  (selSets_walkOf (hereditary_depth _) d (selsDepth_le_docDepth d) sel env hm).2.1

/-- no fragment spread anywhere / every inline type condition declared -/
def SpreadFree (d : Document) : Prop := ∀ x ∈ d, recursiveSpreads x.selections = []
def TcKnown (s : Schema) (d : Document) : Prop := ∀ x ∈ d, tcKnownSels s x.selections = true

theorem ssc_walkOf (s : Schema) (d : Document) (hq : s.queryType.isSome = true) (hsf : SpreadFree d) (htc : TcKnown s d) :
    SSC s (docDepth d) (walkOf s d) :=
  selSets_walkOf (hereditary_goodSel s _) d fun x hx => ⟨hsf x hx, htc x hx, selsDepth_le_docDepth d x hx⟩

theorem resolve_fieldType (s : Schema) (fd : Option FieldDef) :
    s.resolve (fd.map (·.ty)) = (fd.map (·.ty.inner)).bind s.typeByName := by
  cases fd <;> simp [Schema.resolve]

def Entered (s : Schema) (tr : Trace) (a : AstAndDef) : Prop :=
  (∃ env1, (Ev.enter (.field a.field), env1) ∈ tr) ∧
  ∃ env', (Ev.enter (.selectionSet a.field.sel), env') ∈ tr ∧ env'.parent = subParent s a

theorem Entered.mono {s : Schema} {t1 t2 : Trace} {a : AstAndDef} (h : Entered s t1 a) (hsub : ∀ ev ∈ t1, ev ∈ t2) :
    Entered s t2 a := by
  obtain ⟨⟨e1, h1⟩, e2, h2, h3⟩ := h
  exact ⟨⟨e1, hsub _ h1⟩, e2, hsub _ h2, h3⟩

theorem entered_sels (s : Schema) (sp : Name → List AstAndDef) :
    (∀ (x : Selection) (e : Snap), e.cur = e.parent → tcKnownSel s x = true →
      ∀ a ∈ specFieldsSelWith s sp e.parent x, (∃ nm, a ∈ sp nm) ∨ Entered s (walkSelection s e x) a) ∧
    ∀ (xs : List Selection) (e : Snap), e.cur = e.parent → tcKnownSels s xs = true →
      ∀ a ∈ specFieldsWith s sp e.parent xs, (∃ nm, a ∈ sp nm) ∨ Entered s (walkSelections s e xs) a := by
  refine sels_induction ?_ ?_ ?_ ?_ ?_
  · intro pos alias name args dirs sel _ e _ _ a ha
    obtain rfl := List.mem_singleton.1 ha
    rw [walkSelection]
    exact .inr ⟨⟨_, List.mem_append_left _ (List.mem_append_left _ (List.mem_append_left _ List.mem_cons_self))⟩, _,
      List.mem_append_left _ (List.mem_append_right _ List.mem_cons_self), resolve_fieldType s _⟩
  · exact fun _ nm _ _ _ _ a ha => Or.inl ⟨nm, ha⟩
  · intro pos tc dirs sel ih e hcp htc a ha
    obtain ⟨htc1, htc2⟩ := Bool.and_eq_true_iff.1 htc
    -- the environment the inline fragment's selection set is walked in: its current type is the
    -- type the spec collects on, because the type condition is declared
    have h1 : (match tc with | some c => e.withType s (some (.named c)) | none => e).cur = inlineParent s tc e.parent := by
      cases tc with
      | none => exact hcp
      | some c =>
        obtain ⟨t, ht⟩ := Option.isSome_iff_exists.1 htc1
        simp [Snap.withType, Schema.resolve, Ty.inner, inlineParent, ht]
    generalize he1 : (match tc with | some c => e.withType s (some (.named c)) | none => e) = e1 at h1
    have ha' : a ∈ specFieldsWith s sp e1.withParent.parent sel := by
      rw [show e1.withParent.parent = e1.cur from rfl, h1]; exact ha
    refine (ih e1.withParent rfl htc2 a ha').imp_right fun h => h.mono fun ev hev => ?_
    subst he1
    simp only [walkSelection]
    exact List.mem_append_left _ (List.mem_append_right _ (List.mem_append_left _ (List.mem_cons_of_mem _ hev)))
  · exact fun _ _ _ _ ha => nomatch ha
  · intro x xs ih1 ih2 e hcp htc a ha
    simp only [tcKnownSels, Bool.and_eq_true] at htc
    simp only [walkSelections]
    rcases List.mem_append.1 ha with ha | ha
    · exact (ih1 e hcp htc.1 a ha).imp_right fun h => h.mono fun ev => List.mem_append_left _
    · exact (ih2 e hcp htc.2 a ha).imp_right fun h => h.mono fun ev => List.mem_append_right _

theorem selwalk_selections (s : Schema) : ∀ (xs : List Selection) (e : Snap), e.cur = e.parent →
    recursiveSpreads xs = [] → tcKnownSels s xs = true →
    ∀ a ∈ specFieldsWith s (fun _ => []) e.parent xs, a.field.sel ≠ [] →
      ∃ env', (Ev.enter (.selectionSet a.field.sel), env') ∈ walkSelections s e xs ∧
        env'.parent = (a.fdef.map (·.ty.inner)).bind s.typeByName := by
  intro xs e hcp _ htc a ha _
  rcases (entered_sels s fun _ => []).2 xs e hcp htc a ha with ⟨_, h⟩ | h
  · cases h
  · exact h.2

theorem desc_nil (s : Schema) {G : List AstAndDef} (h : Desc s [] G) : G = [] := by
  cases h with
  | refl => rfl
  | step hm _ => simp at hm

/-- the field lists the walk visits -/
def Vis (s : Schema) (d : Document) (F : List AstAndDef) : Prop :=
  ∃ sel env, (Ev.enter (.selectionSet sel), env) ∈ walkOf s d ∧ F = specFieldsWith s (fun _ => []) env.parent sel

theorem vis_desc (s : Schema) (d : Document) (hssc : SSC s (docDepth d) (walkOf s d)) :
    ∀ {F F' : List AstAndDef}, Desc s F F' → Vis s d F → F' ≠ [] → Vis s d F' := by
  intro F F' hd
  induction hd with
  | refl F => intro hv _; exact hv
  | @step F F' a ha _ ih =>
    intro hv hne
    by_cases hsel : a.field.sel = []
    · -- nothing below a leaf
      rename_i hdesc
      rw [subOf_nil s a hsel] at hdesc
      exact absurd (desc_nil s hdesc) hne
    · obtain ⟨sel, env, hm, rfl⟩ := hv
      obtain ⟨hcp, hg, hitems⟩ := hssc sel env hm
      obtain ⟨env', hm', hp⟩ := selwalk_selections s sel env hcp hg.1 hg.2.1 a ha hsel
      refine ih ⟨a.field.sel, env', hitems _ hm', ?_⟩ hne
      unfold subOf
      rw [hp]

end Gql
