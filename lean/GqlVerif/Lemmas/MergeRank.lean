/-
  Lemmas/MergeRank.lean — a rank for fragments of a document without fragment cycles: `Dr d nm`
  is strictly larger than the rank of every fragment spread *anywhere* inside the definition of
  `nm` (through fields, inline fragments, at any depth).  The completeness proof of the
  field-merging rule uses it twice: the pairs of fragments whose comparison is still in progress
  (entered in the memo table before the work is done) all rank above every comparison made
  underneath, so an unfinished entry is never relied on; and a fragment met again on the way down
  through nested spreads cannot be one that is still being expanded.
-/
import GqlVerif.Lemmas.MergeTerm
namespace Gql
open Gql.Spec

mutual
/-- one more than the largest rank of a fragment spread anywhere inside -/
def rSelW (sp : Name → Nat) : Selection → Nat
  | .field _ _ _ _ _ sel => rSelsW sp sel
  | .spread _ nm _ => sp nm + 1
  | .inline _ _ _ sel => rSelsW sp sel
def rSelsW (sp : Name → Nat) : List Selection → Nat
  | [] => 0
  | x :: xs => max (rSelW sp x) (rSelsW sp xs)
end

def drH (d : Document) : Nat → Name → Nat
  | 0, _ => 0
  | k + 1, nm =>
    match d.fragByName nm with
    | some fr => rSelsW (drH d k) fr.sel
    | none => 0

theorem rSelW_weight (sp : Name → Nat) : SelWeight id (sp · + 1) (rSelW sp) (rSelsW sp) :=
  ⟨fun _ _ _ _ _ _ => rfl, fun _ _ _ => rfl, fun _ _ _ _ => rfl, rfl, fun _ _ => rfl⟩

theorem rSelW_congr (sp1 sp2 : Name → Nat) : ∀ x : Selection,
    (∀ nm ∈ (recursiveSpreadsSel x).map (·.name), sp1 nm = sp2 nm) → rSelW sp1 x = rSelW sp2 x :=
  fun x h => ((rSelW_weight sp1).congr (rSelW_weight sp2)).1 x fun nm hnm => congrArg (· + 1) (h nm hnm)

theorem drH_stable (d : Document) : ∀ (k : Nat) (nm : Name), ChainBound (fullSucc d) k nm →
    ∀ m, k + 1 ≤ m → drH d m nm = drH d (k + 1) nm := by
  refine iter_stable (fullSucc d) (drH d) fun k m nm h => ?_
  simp only [drH]
  cases hf : d.fragByName nm with
  | none => rfl
  | some fr =>
    exact ((rSelW_weight _).congr (rSelW_weight _)).2 fr.sel fun nm' hnm' => congrArg (· + 1) (h nm' (by rw [fullSucc, hf]; exact hnm'))

/-- the rank of a fragment name -/
def Dr (d : Document) (nm : Name) : Nat := drH d (d.fragments.length + 1) nm
/-- the rank of a selection set: above every fragment spread anywhere inside -/
def Rs (d : Document) (sel : List Selection) : Nat := rSelsW (Dr d) sel

theorem Dr_eq (d : Document) (hac : ¬ FragmentCycle d) (nm : Name) :
    Dr d nm = match d.fragByName nm with | some fr => Rs d fr.sel | none => 0 :=
  (drH_stable d _ nm (chainBound_acyclic d _ (fullSucc_spreadSucc d) hac nm) (d.fragments.length + 2) (Nat.le_succ _)).symm

theorem Dr_some (d : Document) (hac : ¬ FragmentCycle d) (nm : Name) (fr : FragDef) (h : d.fragByName nm = some fr) :
    Dr d nm = Rs d fr.sel := by
  rw [Dr_eq d hac nm, h]

theorem rs_field_sel (s : Schema) (sp : Name → Nat) : ∀ (x : Selection) (parent : Option TypeDef) (a : AstAndDef),
    a ∈ specFieldsSelWith s (fun _ => []) parent x → rSelsW sp a.field.sel ≤ rSelW sp x :=
  fun x parent a => ((rSelW_weight sp).field_le s (fun _ => []) (fun _ _ h => absurd h List.not_mem_nil) a).1 x parent

theorem fafn_rank (s : Schema) (d : Document) (parent : Option TypeDef) (sel : List Selection) (a : AstAndDef)
    (h : FM (fieldsAndFragmentNames s parent sel).1 a) : Rs d a.field.sel ≤ Rs d sel := by
  unfold fieldsAndFragmentNames at h
  rcases collectSels_fields s sel parent ([], []) a h with h | h
  · obtain ⟨kv, hkv, _⟩ := h; simp at hkv
  · exact ((rSelW_weight (Dr d)).field_le s (fun _ => []) (fun _ _ h => absurd h List.not_mem_nil) a).2 sel parent h

theorem fafn_name_rank (s : Schema) (d : Document) (parent : Option TypeDef) (sel : List Selection) (nm : Name)
    (h : nm ∈ (fieldsAndFragmentNames s parent sel).2) : Dr d nm + 1 ≤ Rs d sel :=
  ((rSelW_weight (Dr d)).le_of_top nm).2 sel (fafn_top s parent sel nm h)

end Gql
