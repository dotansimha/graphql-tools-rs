/-
  Lemmas/Coercion.lean — `vErrs s (some τ) v = []  ↔  Coercible s τ v` for input types of a
  well-formed schema.
-/
import GqlVerif.Lemmas.Values
import GqlVerif.Lemmas.Schema
namespace Gql
open Gql.Spec

/-- no non-null directly inside a non-null (the parser cannot produce `T!!`) -/
def Ty.ok : Ty → Bool
  | .named _ => true
  | .list t => t.ok
  | .nonNull (.nonNull _) => false
  | .nonNull t => t.ok

/-- `τ` is a well-wrapped reference to a declared input type -/
def GoodTy (s : Schema) (τ : Ty) : Prop := τ.ok = true ∧ s.isInputName τ.inner = true

/-- the fields of every input object are well-wrapped references to declared input types -/
def InputsClosed (s : Schema) : Prop :=
  ∀ n n' fields, s.typeByName n = some (.inputObject n' fields) → ∀ f ∈ fields, GoodTy s f.ty

theorem vErrs_none_all (s : Schema) : (∀ v : Value, vErrs s none v = []) ∧ (∀ vs : List Value, vErrsList s none vs = []) ∧
    ∀ fs : List (Name × Value), vErrsFields s none fs = [] := by
  refine values_induction (fun _ => rfl) (fun _ => rfl) (fun _ => rfl) (fun _ => rfl) (fun _ => rfl) rfl (fun _ => rfl)
    (fun _ ih => ih) (fun _ ih => ih) rfl ?_ rfl ?_
  · intro v vs hv hvs
    rw [vErrsList, hv, hvs]
    rfl
  · intro k v fs hv hfs
    rw [vErrsFields, hfs]
    exact List.append_nil _ ▸ hv

theorem vErrs_none (s : Schema) : ∀ v : Value, vErrs s none v = [] := (vErrs_none_all s).1
theorem vErrsList_none (s : Schema) : ∀ vs : List Value, vErrsList s none vs = [] := (vErrs_none_all s).2.1
theorem vErrsFields_none (s : Schema) : ∀ fs : List (Name × Value), vErrsFields s none fs = [] := (vErrs_none_all s).2.2

def Value.plain : Value → Bool
  | .var _ | .null | .list _ => false
  | _ => true

theorem coercible_peel (s : Schema) (v : Value) (hv : Value.plain v = true) :
    ∀ τ : Ty, Coercible s τ v ↔ Coercible s (.named τ.inner) v
  | .named n => Iff.rfl
  | .list ι => by
      refine Iff.trans ⟨fun h => ?_, fun h => ?_⟩ (coercible_peel s v hv ι)
      · cases h with
        | var | null | list => cases hv
        | lone _ _ h' => exact h'
      · exact .lone (by cases v <;> first | rfl | cases hv) (by rintro rfl; cases hv) h
  | .nonNull τ' => by
      refine Iff.trans ⟨fun h => ?_, .nonNull (by rintro rfl; cases hv)⟩ (coercible_peel s v hv τ')
      cases h with
      | var | null => cases hv
      | nonNull _ h' => exact h'

theorem typeByName_name {s : Schema} {n : Name} {td : TypeDef} (h : s.typeByName n = some td) : td.name = n :=
  (typeByName_some h).2

def Value.isLit : Value → Bool
  | .var _ | .null => false
  | _ => true

theorem isCustom_iff (n : Name) : isCustomScalarName n = true ↔ ¬ isBuiltinScalar n := by
  simp only [isCustomScalarName, isBuiltinScalar, Bool.not_eq_true', Bool.or_eq_false_iff, beq_eq_false_iff_ne, not_or]
  exact ⟨fun ⟨⟨⟨⟨a, b⟩, c⟩, d⟩, e⟩ => ⟨b, c, a, d, e⟩, fun ⟨b, c, a, d, e⟩ => ⟨⟨⟨⟨a, b⟩, c⟩, d⟩, e⟩⟩

theorem scalarAccepts_iff (n : Name) (v : Value) : scalarAccepts n v = true ↔ BuiltinAccepts n v := by
  cases v <;> simp only [scalarAccepts, BuiltinAccepts, fitsInt32, Bool.or_eq_true, Bool.and_eq_true, beq_iff_eq,
    decide_eq_true_eq, or_assoc, Bool.false_eq_true]
  · exact or_congr_right or_comm
  · exact or_comm

theorem builtin_of_accepts {n : Name} {v : Value} (h : BuiltinAccepts n v) : isBuiltinScalar n := by
  unfold isBuiltinScalar
  cases v with
  | int => exact h.elim (fun h => .inl h.1) fun h => h.elim (fun h => .inr (.inl h)) fun h => .inr (.inr (.inr (.inr h)))
  | float => exact .inr (.inl h)
  | str => exact h.elim (fun h => .inr (.inr (.inl h))) fun h => .inr (.inr (.inr (.inr h)))
  | bool => exact .inr (.inr (.inr (.inl h)))
  | var | null | enum | list | obj => exact h.elim

theorem inputName_cases {s : Schema} {n : Name} (h : s.isInputName n = true) :
    s.typeByName n = some (.scalar n) ∨ (∃ vs, s.typeByName n = some (.enum n vs)) ∨
      ∃ fs, s.typeByName n = some (.inputObject n fs) := by
  unfold Schema.isInputName at h
  cases htd : s.typeByName n with
  | none => rw [htd] at h; cases h
  | some td =>
    have hn := typeByName_name htd
    rw [htd] at h
    cases td with
    | scalar m => obtain rfl : m = n := hn; exact .inl rfl
    | enum m vs => obtain rfl : m = n := hn; exact .inr (.inl ⟨vs, rfl⟩)
    | inputObject m fs => obtain rfl : m = n := hn; exact .inr (.inr ⟨fs, rfl⟩)
    | object | interface | union => cases h

theorem ite_nil_iff {α : Type} {c : Prop} [Decidable c] (e : α) : (if c then [] else [e]) = [] ↔ c := by
  by_cases hc : c <;> simp [hc]

theorem validateValue_inner (s : Schema) (τ : Ty) (v : Value) :
    validateValue s (snapOf s (some τ)) v = validateValue s (snapOf s (some (.named τ.inner))) v := rfl

theorem validateComposite_inner (s : Schema) (τ : Ty) (v : Value) :
    validateCompositeValue s (snapOf s (some τ)) v = validateCompositeValue s (snapOf s (some (.named τ.inner))) v := rfl

theorem coercible_null_iff (s : Schema) (τ : Ty) : Coercible s τ .null ↔ τ.isNonNull = false := by
  constructor
  · intro h
    cases h with
    | null h => exact h
    | nonNull h _ => exact absurd rfl h
    | lone _ h _ => exact absurd rfl h
    | builtin _ _ ha => simp [BuiltinAccepts] at ha
    | custom _ _ h => exact absurd rfl h
  · exact .null

theorem coercible_list_iff (s : Schema) (ι : Ty) (vs : List Value) :
    Coercible s (.list ι) (.list vs) ↔ ∀ v ∈ vs, Coercible s ι v := by
  constructor
  · intro h
    cases h with
    | list h => exact h
    | lone hl _ _ => simp [Value.isListLit] at hl
  · exact .list

theorem coercible_nonNull_iff (s : Schema) (τ : Ty) {v : Value} (hv : v.isLit = true) :
    Coercible s (.nonNull τ) v ↔ Coercible s τ v := by
  constructor
  · intro h
    cases h with
    | var | null => cases hv
    | nonNull _ h => exact h
  · exact .nonNull (by rintro rfl; cases hv)

theorem req_nil_iff (fields : List InputValueDef) (fs : List (Name × Value)) :
    (fields.filter fun f => f.isRequired && !fs.any (fun kv => kv.1 == f.name)) = [] ↔
      ∀ f ∈ fields, f.isRequired = true → ∃ kv ∈ fs, kv.1 = f.name := by
  simp only [List.filter_eq_nil_iff, Bool.and_eq_true, Bool.not_eq_true', not_and, Bool.not_eq_false, List.any_eq_true,
    beq_iff_eq]

theorem unk_nil_iff (fields : List InputValueDef) (fs : List (Name × Value)) :
    (fs.filter fun kv => !fields.any (fun f => f.name == kv.1)) = [] ↔ ∀ kv ∈ fs, ∃ f ∈ fields, f.name = kv.1 := by
  simp only [List.filter_eq_nil_iff, Bool.not_eq_true', Bool.not_eq_false, List.any_eq_true, beq_iff_eq]

theorem objectFieldType_named (s : Schema) (n : Name) (k : Name) :
    objectFieldType s (some (.named n)) k =
      (match s.typeByName n with
       | some (.inputObject _ fields) => (fields.find? (·.name == k)).map (·.ty)
       | _ => none) := by
  show ((s.typeByName n).bind (·.inputFieldByName k)).map (·.ty) = _
  cases s.typeByName n with
  | none => rfl
  | some td => cases td <;> rfl

theorem vErrs_inner (s : Schema) (τ : Ty) {v : Value} (hv : v.plain = true) :
    vErrs s (some τ) v = vErrs s (some (.named τ.inner)) v := by
  cases v with
  | var | null | list => cases hv
  | int | float | str | bool | enum => rfl
  | obj fs =>
    have hf : ∀ fs : List (Name × Value), vErrsFields s (some τ) fs = vErrsFields s (some (.named τ.inner)) fs := by
      intro fs
      induction fs with
      | nil => rfl
      | cons kv rest ih => rw [vErrsFields, ih]; rfl
    rw [vErrs, hf]
    rfl

theorem vErrsFields_scalar (s : Schema) (n m : Name) (hm : s.typeByName n = some (.scalar m)) :
    ∀ fs : List (Name × Value), vErrsFields s (some (.named n)) fs = []
  | [] => rfl
  | (k, v) :: rest => by
      have : objectFieldType s (some (.named n)) k = none := by rw [objectFieldType_named, hm]
      simp [vErrsFields, this, vErrs_none, vErrsFields_scalar s n m hm rest]

section
variable {s : Schema} {n : Name}

theorem vErrs_named_list (vs : List Value) :
    vErrs s (some (.named n)) (.list vs) = validateCompositeValue s (snapOf s (some (.named n))) (.list vs) := by
  simp only [vErrs, expectsList, listItemType, Bool.not_false, if_true, vErrsList_none, List.append_nil]

section scalar
variable (h : s.typeByName n = some (.scalar n))
include h

theorem validateValue_scalar (v : Value) :
    validateValue s (snapOf s (some (.named n))) v =
      if scalarAccepts n v || isCustomScalarName n then [] else [⟨.valuesOfCorrectType, [], .expectedTypeFound n v⟩] := by
  unfold validateValue
  simp only [snapOf, Ty.inner, h]
  cases scalarAccepts n v <;> rfl

theorem validateComposite_scalar (v : Value) :
    validateCompositeValue s (snapOf s (some (.named n))) v =
      if isCustomScalarName n then [] else [⟨.valuesOfCorrectType, [], .expectedTypeFound n v⟩] := by
  unfold validateCompositeValue
  simp only [snapOf, Ty.inner, h]
  by_cases hc : isCustomScalarName n = true <;> simp [hc]

theorem vErrs_scalar_iff {v : Value} (hv : v.isLit = true) :
    vErrs s (some (.named n)) v = [] ↔ scalarAccepts n v = true ∨ isCustomScalarName n = true := by
  cases v with
  | var | null => cases hv
  | int | float | str | bool | enum => rw [vErrs, validateValue_scalar h, ite_nil_iff, Bool.or_eq_true]
  | list vs =>
    rw [vErrs_named_list, validateComposite_scalar h, ite_nil_iff]
    exact (or_iff_right (by nofun)).symm
  | obj fs =>
    have hm : objectMemberErrs s (some (.named n)) fs = [] := by
      simp only [objectMemberErrs, Schema.resolve, Option.bind_some, Ty.inner, h]
    rw [vErrs, vErrsFields_scalar s n n h, hm, validateComposite_scalar h, List.append_nil, List.append_nil, ite_nil_iff]
    exact (or_iff_right (by nofun)).symm

theorem coercible_scalar_iff {v : Value} (hv : v.isLit = true) :
    Coercible s (.named n) v ↔ BuiltinAccepts n v ∨ ¬ isBuiltinScalar n := by
  constructor
  · intro hc
    cases hc with
    | var | null => cases hv
    | builtin _ _ ha => exact .inl ha
    | custom _ hnb => exact .inr hnb
    | enum h1 | object h1 => cases h.symm.trans h1
  · rintro (ha | hnb)
    · exact .builtin h (builtin_of_accepts ha) ha
    · exact .custom h hnb (by rintro rfl; cases hv)
end scalar

section enum
variable {vals : List Name} (h : s.typeByName n = some (.enum n vals))
include h

theorem validateValue_enum (v : Value) :
    validateValue s (snapOf s (some (.named n))) v =
      match v with
      | .enum x => if !vals.any (fun y => y == x) then [⟨.valuesOfCorrectType, [], .enumValueMissing x n⟩] else []
      | other => [⟨.valuesOfCorrectType, [], .enumNonEnumValue n other⟩] := by
  unfold validateValue
  simp only [snapOf, Ty.inner, h]
  rfl

theorem validateComposite_enum (v : Value) :
    validateCompositeValue s (snapOf s (some (.named n))) v = [⟨.valuesOfCorrectType, [], .expectedTypeFound n v⟩] := by
  unfold validateCompositeValue
  simp only [snapOf, Ty.inner, h]
  rfl

theorem vErrs_enum_iff {v : Value} (hv : v.isLit = true) :
    vErrs s (some (.named n)) v = [] ↔ ∃ x ∈ vals, v = .enum x := by
  cases v with
  | var | null => cases hv
  | enum x => rw [vErrs, validateValue_enum h]; simp
  | int | float | str | bool | list | obj =>
    refine iff_of_false ?_ nofun
    simp [vErrs, expectsList, validateValue_enum h, validateComposite_enum h]

theorem coercible_enum_iff {v : Value} (hv : v.isLit = true) :
    Coercible s (.named n) v ↔ ∃ x ∈ vals, v = .enum x := by
  constructor
  · intro hc
    cases hc with
    | var | null => cases hv
    | builtin h1 | custom h1 | object h1 => cases h.symm.trans h1
    | enum h1 hx => cases h.symm.trans h1; exact ⟨_, hx, rfl⟩
  · rintro ⟨x, hx, rfl⟩
    exact .enum h hx
end enum

section inputObject
variable {fields : List InputValueDef} (h : s.typeByName n = some (.inputObject n fields))
include h

theorem validateValue_inputObject (v : Value) :
    validateValue s (snapOf s (some (.named n))) v = [⟨.valuesOfCorrectType, [], .expectedTypeFound n v⟩] := by
  unfold validateValue
  simp only [snapOf, Ty.inner, h]
  rfl

theorem validateComposite_inputObject_list (vs : List Value) :
    validateCompositeValue s (snapOf s (some (.named n))) (.list vs) =
      [⟨.valuesOfCorrectType, [], .expectedTypeFound n (.list vs)⟩] := by
  unfold validateCompositeValue
  simp only [snapOf, Ty.inner, h]
  rfl

theorem validateComposite_inputObject_obj (fs : List (Name × Value)) :
    validateCompositeValue s (snapOf s (some (.named n))) (.obj fs) = [] := by
  unfold validateCompositeValue
  simp only [snapOf, Ty.inner, h]
  rfl

theorem vErrs_inputObject_iff {v : Value} (hv : v.isLit = true) :
    vErrs s (some (.named n)) v = [] ↔ ∃ fs, v = .obj fs ∧ (∀ kv ∈ fs, ∃ f ∈ fields, f.name = kv.1) ∧
      (∀ f ∈ fields, f.isRequired = true → ∃ kv ∈ fs, kv.1 = f.name) ∧ vErrsFields s (some (.named n)) fs = [] := by
  cases v with
  | var | null => cases hv
  | int | float | str | bool | enum | list =>
    refine iff_of_false ?_ nofun
    simp [vErrs, expectsList, validateValue_inputObject h, validateComposite_inputObject_list h]
  | obj fs =>
    simp only [vErrs, validateComposite_inputObject_obj h, objectMemberErrs, Schema.resolve, Option.bind_some, Ty.inner, h,
      List.nil_append, List.append_eq_nil_iff, List.map_eq_nil_iff, req_nil_iff, unk_nil_iff, Value.obj.injEq, exists_eq_left']
    exact ⟨fun ⟨⟨hr, hk⟩, hf⟩ => ⟨hk, hr, hf⟩, fun ⟨hk, hr, hf⟩ => ⟨⟨hr, hk⟩, hf⟩⟩

theorem coercible_inputObject_iff {v : Value} (hv : v.isLit = true) :
    Coercible s (.named n) v ↔ ∃ fs, v = .obj fs ∧ (∀ kv ∈ fs, ∃ f ∈ fields, f.name = kv.1) ∧
      (∀ f ∈ fields, f.isRequired = true → ∃ kv ∈ fs, kv.1 = f.name) ∧
      ∀ kv ∈ fs, ∀ f, fields.find? (·.name == kv.1) = some f → Coercible s f.ty kv.2 := by
  constructor
  · intro hc
    cases hc with
    | var | null => cases hv
    | builtin h1 | custom h1 | enum h1 => cases h.symm.trans h1
    | object h1 hk hr hf => cases h.symm.trans h1; exact ⟨_, rfl, hk, hr, hf⟩
  · rintro ⟨fs, rfl, hk, hr, hf⟩
    exact .object h hk hr hf
end inputObject

theorem vErrs_named_iff (hin : s.isInputName n = true) (v : Value) (hv : v.isLit = true)
    (ih : ∀ fields fs, s.typeByName n = some (.inputObject n fields) → v = .obj fs →
      (vErrsFields s (some (.named n)) fs = [] ↔
        ∀ kv ∈ fs, ∀ f, fields.find? (·.name == kv.1) = some f → Coercible s f.ty kv.2)) :
    vErrs s (some (.named n)) v = [] ↔ Coercible s (.named n) v := by
  rcases inputName_cases hin with h | ⟨vals, h⟩ | ⟨fields, h⟩
  · rw [vErrs_scalar_iff h hv, coercible_scalar_iff h hv, scalarAccepts_iff, isCustom_iff]
  · rw [vErrs_enum_iff h hv, coercible_enum_iff h hv]
  · rw [vErrs_inputObject_iff h hv, coercible_inputObject_iff h hv]
    exact exists_congr fun fs => and_congr_right fun hfs => and_congr_right fun _ => and_congr_right fun _ =>
      ih fields fs h hfs
end

theorem vErrs_iff_all (s : Schema) (hs : InputsClosed s) :
    (∀ (v : Value) (τ : Ty), GoodTy s τ → (vErrs s (some τ) v = [] ↔ Coercible s τ v)) ∧
    (∀ (vs : List Value) (ι : Ty), GoodTy s ι → (vErrsList s (some ι) vs = [] ↔ ∀ v ∈ vs, Coercible s ι v)) ∧
    ∀ (fs : List (Name × Value)) (n : Name) (fields : List InputValueDef),
      s.typeByName n = some (.inputObject n fields) →
      (vErrsFields s (some (.named n)) fs = [] ↔
        ∀ kv ∈ fs, ∀ f, fields.find? (·.name == kv.1) = some f → Coercible s f.ty kv.2) := by
  have inner {v : Value} (hv : v.plain = true) (τ : Ty)
      (h : vErrs s (some (.named τ.inner)) v = [] ↔ Coercible s (.named τ.inner) v) :
      vErrs s (some τ) v = [] ↔ Coercible s τ v := by
    rwa [vErrs_inner s τ hv, coercible_peel s _ hv τ]
  refine values_induction (fun x τ _ => iff_of_true rfl (.var τ x)) (fun _ τ hg => inner rfl τ (vErrs_named_iff hg.2 _ rfl nofun))
    (fun _ τ hg => inner rfl τ (vErrs_named_iff hg.2 _ rfl nofun)) (fun _ τ hg => inner rfl τ (vErrs_named_iff hg.2 _ rfl nofun))
    (fun _ τ hg => inner rfl τ (vErrs_named_iff hg.2 _ rfl nofun)) ?_
    (fun _ τ hg => inner rfl τ (vErrs_named_iff hg.2 _ rfl nofun)) ?_ ?_ ?_ ?_ ?_ ?_
  · intro τ _
    rw [coercible_null_iff]
    cases hnn : τ.isNonNull <;> simp [vErrs, hnn]
  · intro vs ih τ hg
    match τ, hg with
    | .list ι, hg =>
      simp only [vErrs, expectsList, listItemType, Bool.not_true, Bool.false_eq_true, if_false, List.nil_append]
      rw [ih ι hg, coercible_list_iff]
    | .nonNull (.list ι), hg =>
      simp only [vErrs, expectsList, listItemType, Bool.not_true, Bool.false_eq_true, if_false, List.nil_append]
      rw [ih ι hg, coercible_nonNull_iff s _ rfl, coercible_list_iff]
    | .named n, hg => exact vErrs_named_iff hg.2 (.list vs) rfl nofun
    | .nonNull (.named n), hg =>
      rw [coercible_nonNull_iff s _ rfl]
      exact vErrs_named_iff (n := n) hg.2 (.list vs) rfl nofun
    | .nonNull (.nonNull _), hg => exact nomatch hg.1
  · intro fs ih τ hg
    exact inner rfl τ (vErrs_named_iff hg.2 _ rfl fun fields _ hm hfs => Value.obj.inj hfs ▸ ih τ.inner fields hm)
  · intro ι _
    simp [vErrsList]
  · intro v vs hv hvs ι hg
    simp only [vErrsList, List.append_eq_nil_iff, hv ι hg, hvs ι hg, List.mem_cons, forall_eq_or_imp]
  · intro n fields _
    simp [vErrsFields]
  · intro k v fs hv hfs n fields hm
    simp only [vErrsFields, List.append_eq_nil_iff, hfs n fields hm, List.mem_cons, forall_eq_or_imp, objectFieldType_named, hm]
    apply and_congr_left'
    cases hf : fields.find? (·.name == k) with
    | none => simp [vErrs_none]
    | some f => simp [hv f.ty (hs _ _ _ hm f (List.mem_of_find?_eq_some hf))]

/-- **the rule's report inside a literal is empty iff the literal coerces to the expected type** -/
theorem vErrs_iff (s : Schema) (hs : InputsClosed s) :
    ∀ (v : Value) (τ : Ty), GoodTy s τ → (vErrs s (some τ) v = [] ↔ Coercible s τ v) := (vErrs_iff_all s hs).1
theorem vErrsFields_iff (s : Schema) (hs : InputsClosed s) :
    ∀ (fs : List (Name × Value)) (n : Name) (fields : List InputValueDef),
      s.typeByName n = some (.inputObject n fields) →
      (vErrsFields s (some (.named n)) fs = [] ↔
        ∀ kv ∈ fs, ∀ f, fields.find? (·.name == kv.1) = some f → Coercible s f.ty kv.2) := (vErrs_iff_all s hs).2.2

end Gql

