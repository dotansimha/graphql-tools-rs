/-
  Lemmas/MergeSound.lean — what the field-merging rule reports, for documents with fragment spreads,
  whatever the state of the memo tables, the visited list and the fuel: every conflict a call returns
  is accounted for by two same-key fields, one from each side the call compares (`ReportsAt`, one
  induction on the fuel through the five mutually recursive functions, for any relation `W` between a
  comparison and a conflict that `find_conflict` keeps).  With `W` = "the comparison fails" (`Fails`,
  Lemmas/MergeRel.lean): every reported conflict is backed by a finite witness.  (Skipping
  comparisons can only lose conflicts, never invent them.)
-/
import GqlVerif.Lemmas.MergeRel
import GqlVerif.Lemmas.Rules
namespace Gql
open Gql.Spec

theorem ite_ind {α : Sort _} {motive : α → Prop} (c : Prop) [Decidable c] {x y : α}
    (hx : c → motive x) (hy : ¬c → motive y) : motive (ite c x y) := by
  split
  · exact hx ‹_›
  · exact hy ‹_›

def AllC (P : Conflict → Prop) (r : MRes) : Prop := ∀ c ∈ r.1, P c

section
variable {P Q : Conflict → Prop}

theorem AllC.nil (st : MState) : AllC P ([], st) := fun _ h => nomatch h

theorem AllC.mono {r : MRes} (h : AllC P r) (hPQ : ∀ c, P c → Q c) : AllC Q r := fun c hc => hPQ c (h c hc)

theorem AllC.setVisited {r : MRes} (h : AllC P r) (v : List Name) : AllC P (r.setVisited v) := h

theorem AllC.cat {acc x : MRes} (h1 : AllC P acc) (h2 : AllC P x) : AllC P (acc.1 ++ x.1, x.2) :=
  fun c hc => (List.mem_append.1 hc).elim (h1 c) (h2 c)

theorem AllC.push {acc : MRes} {r : Option Conflict × MState} (h1 : AllC P acc) (h2 : ∀ c, r.1 = some c → P c) :
    AllC P (pushConflict acc r) := by
  intro c hc
  unfold pushConflict at hc
  cases hr : r.1 with
  | none => rw [hr] at hc; exact h1 c hc
  | some c' =>
    rw [hr] at hc
    rcases List.mem_append.1 hc with hc | hc
    · exact h1 c hc
    · rw [List.mem_singleton.1 hc]; exact h2 c' hr

theorem AllC.runAll {α : Type} {f : α → MState → MRes} {L : List α} {acc : MRes} (hf : ∀ x ∈ L, ∀ st, AllC P (f x st))
    (hacc : AllC P acc) : AllC P (runAll f L acc) :=
  foldl_inv_mem (AllC P) L acc hacc fun _ x hx h => h.cat (hf x hx _)

theorem AllC.visitStep {f : Name → MState → MRes} {L : List Name} {acc : MRes} (hf : ∀ x ∈ L, ∀ st, AllC P (f x st))
    (hacc : AllC P acc) : AllC P (L.foldl (visitStep f) acc) :=
  foldl_inv_mem (AllC P) L acc hacc fun _ x hx h => ite_ind _ (fun _ => h) fun _ => h.cat (hf x hx _)

theorem AllC.between (fc : Name → AstAndDef → AstAndDef → Bool → MState → Option Conflict × MState)
    (me : Bool) {fm1 fm2 : FieldMap} (h1 : KeyOk fm1) (h2 : KeyOk fm2)
    (hfc : ∀ k a b st c, FM fm1 a → FM fm2 b → keyOf a = keyOf b → (fc k a b me st).1 = some c → P c)
    {acc : MRes} (hacc : AllC P acc) : AllC P (fm1.foldl (betweenKeyStep fc me fm2) acc) := by
  refine foldl_inv_mem (AllC P) fm1 acc hacc fun acc kv hkv hacc => ?_
  refine foldl_inv_mem (AllC P) kv.2 acc hacc fun acc a ha hacc => ?_
  refine foldl_inv_mem (AllC P) _ acc hacc fun acc b hb hacc => hacc.push fun c hc => ?_
  cases hg : alGet fm2 kv.1 with
  | none => rw [hg] at hb; cases hb
  | some l =>
    rw [hg] at hb
    have hm := mem_of_alGet fm2 kv.1 l hg
    exact hfc _ a b _ c ⟨kv, hkv, ha⟩ ⟨_, hm, hb⟩ (by rw [h1 kv hkv a ha, h2 _ hm b hb]) hc

end

/-- two same-key fields, one from each side, account for `c` -/
def Pair (W : Bool → AstAndDef → AstAndDef → Conflict → Prop) (A B : AstAndDef → Prop) (me : Bool) (c : Conflict) : Prop :=
  ∃ a b, A a ∧ B b ∧ keyOf a = keyOf b ∧ W me a b c

theorem Pair.mono {W : Bool → AstAndDef → AstAndDef → Conflict → Prop} {A A' B B' : AstAndDef → Prop} {me : Bool}
    (hA : ∀ a, A a → A' a) (hB : ∀ b, B b → B' b) (c : Conflict) : Pair W A B me c → Pair W A' B' me c :=
  fun ⟨a, b, ha, hb, h⟩ => ⟨a, b, hA a ha, hB b hb, h⟩

/-- `W me a b c`, read "comparing `a` with `b` under the flag `me` accounts for the conflict `c`",
    is kept by `find_conflict`: it holds of the conflicts read off the two fields alone, and of the
    conflict made of sub-conflicts that pairs of fields below `a` and `b` account for -/
structure Accounts (s : Schema) (d : Document) (W : Bool → AstAndDef → AstAndDef → Conflict → Prop) : Prop where
  flat : ∀ {pe a b} key r, pcFlat s pe a b = true → W pe a b ⟨key, r, [a.field.pos], [b.field.pos]⟩
  nested : ∀ {pe a b key c} {r : MRes}, AllC (Pair W (MemSub s d a) (MemSub s d b) (meOf pe a b)) r →
    subfieldConflicts r.1 key a.field.pos a.field.pos = some c → W pe a b c
  symm : ∀ {me a b c}, W me a b c → W me b a c

section
variable {s : Schema} {d : Document} {W : Bool → AstAndDef → AstAndDef → Conflict → Prop}

theorem Pair.swap (hW : Accounts s d W) {A B : AstAndDef → Prop} {me : Bool} (c : Conflict) :
    Pair W A B me c → Pair W B A me c :=
  fun ⟨a, b, ha, hb, hk, h⟩ => ⟨b, a, hb, ha, hk.symm, hW.symm h⟩

variable (s d W) in
/-- every conflict a call of one of the five mutually recursive functions returns at fuel `n` is
    accounted for by two same-key fields, one from each of the two sides the call compares -/
structure ReportsAt (n : Nat) : Prop where
  fc : ∀ key a b me st c, (findConflict s d n key a b me st).1 = some c → W me a b c
  cb : ∀ me fm1 fm2 st, KeyOk fm1 → KeyOk fm2 →
    AllC (Pair W (FM fm1) (FM fm2) me) (conflictsBetween s d n me fm1 fm2 st)
  bs : ∀ me pn1 sel1 pn2 sel2 st,
    AllC (Pair W (Mem s d (pn1.bind s.typeByName) sel1) (Mem s d (pn2.bind s.typeByName) sel2) me)
      (betweenSubSelectionSets s d n me pn1 sel1 pn2 sel2 st)
  ff : ∀ fm nm me st, KeyOk fm → AllC (Pair W (FM fm) (MemFrag s d nm) me) (fieldsAndFragment s d n fm nm me st)
  bf : ∀ n1 n2 me st, AllC (Pair W (MemFrag s d n1) (MemFrag s d n2) me) (betweenFragments s d n n1 n2 me st)

theorem reportsAt_zero : ReportsAt s d W 0 where
  fc := by intro key a b me st c h; rw [findConflict] at h; cases h
  cb := by intro me fm1 fm2 st _ _; rw [conflictsBetween]; exact AllC.nil _
  bs := by intro me pn1 sel1 pn2 sel2 st; rw [betweenSubSelectionSets]; exact AllC.nil _
  ff := by intro fm nm me st _; rw [fieldsAndFragment]; exact AllC.nil _
  bf := by intro n1 n2 me st; rw [betweenFragments]; exact AllC.nil _

theorem reportsAt_succ (hW : Accounts s d W) (n : Nat) (ih : ReportsAt s d W n) : ReportsAt s d W (n + 1) where
  fc := by
    intro key a b me st c h
    cases hst : st.stuck with
    | true => rw [findConflict_stuck s d n key a b me hst] at h; cases h
    | false =>
      rcases findConflict_cases s d n key a b me st hst with ⟨hf, r, hc⟩ | ⟨_, hc⟩
      · rw [hc] at h; cases h; exact hW.flat key r hf
      · rw [hc] at h
        split at h
        · exact hW.nested (ih.bs _ _ _ _ _ _) h
        · cases h
  cb := by
    intro me fm1 fm2 st h1 h2
    rw [conflictsBetween]
    refine ite_ind _ (fun _ => AllC.nil _) fun _ => ?_
    exact AllC.between (findConflict s d n) me h1 h2
      (fun k a b st c ha hb hk hc => ⟨a, b, ha, hb, hk, ih.fc k a b me st c hc⟩) (AllC.nil _)
  bs := by
    intro me pn1 sel1 pn2 sel2 st
    rw [betweenSubSelectionSets]
    refine ite_ind _ (fun _ => AllC.nil _) fun _ => ?_
    obtain ⟨k1, _, _⟩ := fafn_facts s d (pn1.bind s.typeByName) sel1
    obtain ⟨k2, _, _⟩ := fafn_facts s d (pn2.bind s.typeByName) sel2
    -- (J) fragment against fragment
    refine foldl_inv_mem (AllC _) _ _ ?_ fun acc f1 hf1 hacc => AllC.runAll (fun f2 hf2 st => (ih.bf f1 f2 me st).mono
      (Pair.mono (fafn_memFrag s d _ _ f1 hf1) (fafn_memFrag s d _ _ f2 hf2))) hacc
    -- (I) the fields of the second against the fragments of the first
    refine AllC.runAll (fun fn hfn st => ((ih.ff _ fn me st k2).mono
      (Pair.mono (fafn_mem s d _ _) (fafn_memFrag s d _ _ fn hfn))).mono (Pair.swap hW)) ?_
    -- (I) the fields of the first against the fragments of the second
    refine AllC.runAll (fun fn hfn st => (ih.ff _ fn me st k1).mono
      (Pair.mono (fafn_mem s d _ _) (fafn_memFrag s d _ _ fn hfn))) ?_
    -- (H) field against field
    exact (ih.cb me _ _ st k1 k2).mono (Pair.mono (fafn_mem s d _ _) (fafn_mem s d _ _))
  ff := by
    intro fm nm me st kfm
    rw [fieldsAndFragment]
    refine ite_ind _ (fun _ => AllC.nil _) fun _ => ?_
    cases hfrag : d.fragByName nm with
    | none => exact AllC.nil _
    | some frag =>
      refine ite_ind _ (fun _ => AllC.nil _) fun _ => ?_
      obtain ⟨k2, _, _⟩ := fafn_facts s d (s.typeByName frag.tc) frag.sel
      refine AllC.visitStep (fun fn2 hfn2 st' => (ih.ff fm fn2 me st' kfm).mono
        (Pair.mono (fun _ h => h) (ref_memFrag s d nm frag hfrag fn2 hfn2))) ?_
      exact (ih.cb me fm _ st kfm k2).mono (Pair.mono (fun _ h => h) (ref_mem s d nm frag hfrag))
  bf := by
    intro n1 n2 me st
    rw [betweenFragments]
    refine ite_ind _ (fun _ => AllC.nil _) fun _ => ?_
    refine ite_ind _ (fun _ => AllC.nil _) fun _ => ?_
    refine ite_ind _ (fun _ => AllC.nil _) fun _ => ?_
    cases hf1 : d.fragByName n1 with
    | none => exact AllC.nil _
    | some f1 =>
      cases hf2 : d.fragByName n2 with
      | none => exact AllC.nil _
      | some f2 =>
        obtain ⟨k1, _, _⟩ := fafn_facts s d (s.typeByName f1.tc) f1.sel
        obtain ⟨k2, _, _⟩ := fafn_facts s d (s.typeByName f2.tc) f2.sel
        refine AllC.runAll (fun x hx st => (ih.bf x n2 me st).mono
          (Pair.mono (ref_memFrag s d n1 f1 hf1 x hx) fun _ h => h)) ?_
        refine AllC.runAll (fun x hx st => (ih.bf n1 x me st).mono
          (Pair.mono (fun _ h => h) (ref_memFrag s d n2 f2 hf2 x hx))) ?_
        exact (ih.cb me _ _ _ k1 k2).mono (Pair.mono (ref_mem s d n1 f1 hf1) (ref_mem s d n2 f2 hf2))

theorem reportsAt (hW : Accounts s d W) : ∀ n, ReportsAt s d W n
  | 0 => reportsAt_zero
  | n + 1 => reportsAt_succ hW n (reportsAt hW n)

/-- **one selection set**: every reported conflict is accounted for by two same-key fields the
    selection set collects, compared as fields whose parents may coincide -/
theorem selset_reports (hW : Accounts s d W) (fuel : Nat) (parent : Option TypeDef) (sel : List Selection) (st : MState) :
    AllC (Pair W (Mem s d parent sel) (Mem s d parent sel) false) (conflictsWithinSelectionSet s d fuel parent sel st) := by
  obtain ⟨hk, _, _⟩ := fafn_facts s d parent sel
  have R := reportsAt hW fuel
  -- the loop (B)/(C) over the fragment names
  refine loop_inv s d fuel _ (AllC _) _ _ ?_ fun f1 rest acc hsub h =>
    have m1 := fafn_memFrag s d parent sel f1 (hsub f1 List.mem_cons_self)
    AllC.runAll (fun f2 hf2 st => (R.bf f1 f2 false st).mono
        (Pair.mono m1 (fafn_memFrag s d parent sel f2 (hsub f2 (List.mem_cons_of_mem _ hf2)))))
      (h.cat ((R.ff _ f1 false _ hk).mono (Pair.mono (fafn_mem s d parent sel) m1)))
  -- `collect_conflicts_within`: the fields of each response key, pairwise
  refine foldl_inv_mem (AllC _) _ _ (AllC.nil st) fun acc kv hkv hacc => ?_
  refine foldl_inv_mem (AllC _) _ _ hacc fun acc p hp hacc => hacc.push fun c hc => ?_
  obtain ⟨m1, m2⟩ := mem_orderedPairs kv.2 p hp
  exact ⟨p.1, p.2, fafn_mem s d _ _ _ ⟨kv, hkv, m1⟩, fafn_mem s d _ _ _ ⟨kv, hkv, m2⟩,
    by rw [hk kv hkv _ m1, hk kv hkv _ m2], R.fc _ _ _ _ _ c hc⟩

end

theorem accounts_fails (s : Schema) (d : Document) : Accounts s d (fun me a b _ => Fails s d me a b) where
  flat := fun _ _ h => Fails.of_pcFlat h
  nested := by
    intro pe a b key c r hr h
    cases hr1 : r.1 with
    | nil => rw [hr1] at h; cases h
    | cons c' _ =>
      obtain ⟨x, y, hx, hy, hk, hf⟩ := hr c' (hr1 ▸ List.mem_cons_self)
      exact Fails.nested hx hy hk hf
  symm := Fails.symm

structure SoundAt (s : Schema) (d : Document) (n : Nat) : Prop where
  fc : ∀ key a b me st, (findConflict s d n key a b me st).1.isSome = true → Fails s d me a b
  cb : ∀ me fm1 fm2 st, KeyOk fm1 → KeyOk fm2 → (conflictsBetween s d n me fm1 fm2 st).1 ≠ [] →
    ∃ a b, FM fm1 a ∧ FM fm2 b ∧ keyOf a = keyOf b ∧ Fails s d me a b
  bs : ∀ me pn1 sel1 pn2 sel2 st, (betweenSubSelectionSets s d n me pn1 sel1 pn2 sel2 st).1 ≠ [] →
    ∃ a b, Mem s d (pn1.bind s.typeByName) sel1 a ∧ Mem s d (pn2.bind s.typeByName) sel2 b ∧ keyOf a = keyOf b ∧ Fails s d me a b
  ff : ∀ fm nm me st, KeyOk fm → (fieldsAndFragment s d n fm nm me st).1 ≠ [] →
    ∃ a b, FM fm a ∧ MemFrag s d nm b ∧ keyOf a = keyOf b ∧ Fails s d me a b
  bf : ∀ n1 n2 me st, (betweenFragments s d n n1 n2 me st).1 ≠ [] →
    ∃ a b, MemFrag s d n1 a ∧ MemFrag s d n2 b ∧ keyOf a = keyOf b ∧ Fails s d me a b

theorem soundAt (s : Schema) (d : Document) : ∀ n, SoundAt s d n := fun n =>
  have R := reportsAt (accounts_fails s d) n
  { fc := fun key a b me st h => by
      obtain ⟨c, hc⟩ := Option.isSome_iff_exists.1 h
      exact R.fc key a b me st c hc
    cb := fun me fm1 fm2 st h1 h2 h => by
      obtain ⟨c, hc⟩ := List.exists_mem_of_ne_nil _ h
      exact R.cb me fm1 fm2 st h1 h2 c hc
    bs := fun me pn1 sel1 pn2 sel2 st h => by
      obtain ⟨c, hc⟩ := List.exists_mem_of_ne_nil _ h
      exact R.bs me pn1 sel1 pn2 sel2 st c hc
    ff := fun fm nm me st hk h => by
      obtain ⟨c, hc⟩ := List.exists_mem_of_ne_nil _ h
      exact R.ff fm nm me st hk c hc
    bf := fun n1 n2 me st h => by
      obtain ⟨c, hc⟩ := List.exists_mem_of_ne_nil _ h
      exact R.bf n1 n2 me st c hc }

/-- **the rule reports only where a selection set of the document has two same-key collected
    fields whose pair test fails** -/
theorem merge_fires_sound (s : Schema) (d : Document) (h : fires .overlappingFieldsCanBeMerged s d) :
    ∃ sel env, (Ev.enter (.selectionSet sel), env) ∈ walkOf s d ∧
      ∃ a b, Mem s d env.parent sel a ∧ Mem s d env.parent sel b ∧ keyOf a = keyOf b ∧ PairBad s d a b := by
  obtain ⟨x, hx⟩ := List.exists_mem_of_ne_nil _ h
  refine runOn_inv overlappingFieldsCanBeMerged s d (fun _ => True) (fun _ => _) (walkOf s d) trivial
    (fun σ _ e he => ⟨trivial, fun x hx => ?_⟩) (fun σ _ x hx => nomatch hx) x hx
  obtain ⟨ev, env⟩ := e
  cases ev with
  | leave n => exact absurd hx List.not_mem_nil
  | enter n =>
    cases n with
    | selectionSet sel =>
      obtain ⟨c, hc, _⟩ := List.mem_map.1 hx
      exact ⟨sel, env, he, selset_reports (accounts_fails s d) _ _ sel _ c hc⟩
    | _ => exact absurd hx List.not_mem_nil

end Gql
