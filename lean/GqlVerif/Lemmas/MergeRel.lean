/-
  Lemmas/MergeRel.lean — fuel-free vocabulary for the soundness of the field-merging rule on
  documents WITH fragment spreads: membership in the fields a selection set collects (for some
  spread fuel), finite witnesses that SameResponseShape / the pair test of FieldsInSetCanMerge
  fail, and what `collect_fields_and_fragment_names` puts into its map and its name list.
-/
import GqlVerif.Lemmas.MergeSpecFF
namespace Gql
open Gql.Spec

theorem specFieldsSelWith_subset (s : Schema) (sp1 sp2 : Name → List AstAndDef) (h : ∀ nm, sp1 nm ⊆ sp2 nm) :
    ∀ (x : Selection) (parent : Option TypeDef), specFieldsSelWith s sp1 parent x ⊆ specFieldsSelWith s sp2 parent x :=
  (spec_subset s sp1 sp2 h).1

theorem spreadFields_succ_some (s : Schema) (d : Document) (n : Nat) (nm : Name) (fr : FragDef)
    (h : d.fragByName nm = some fr) :
    spreadFields s d (n + 1) nm = specFieldsWith s (spreadFields s d n) (s.typeByName fr.tc) fr.sel := by
  simp [spreadFields, h]

theorem spreadFields_succ_none (s : Schema) (d : Document) (n : Nat) (nm : Name) (h : d.fragByName nm = none) :
    spreadFields s d (n + 1) nm = [] := by
  simp [spreadFields, h]

theorem spreadFields_mono (s : Schema) (d : Document) : ∀ (n : Nat) (nm : Name),
    spreadFields s d n nm ⊆ spreadFields s d (n + 1) nm
  | 0, nm => by simp [spreadFields]
  | n + 1, nm => by
      cases h : d.fragByName nm with
      | none => rw [spreadFields_succ_none s d n nm h]; simp
      | some fr =>
        rw [spreadFields_succ_some s d n nm fr h, spreadFields_succ_some s d (n + 1) nm fr h]
        exact (spec_subset s _ _ fun nm' => spreadFields_mono s d n nm').2 fr.sel _

theorem spreadFields_mono_le (s : Schema) (d : Document) (nm : Name) {n m : Nat} (h : n ≤ m) :
    spreadFields s d n nm ⊆ spreadFields s d m nm := by
  induction h with
  | refl => exact fun _ h => h
  | step _ ih => exact fun a ha => spreadFields_mono s d _ nm (ih ha)

theorem specFields_mono_le (s : Schema) (d : Document) (parent : Option TypeDef) (sel : List Selection) {n m : Nat}
    (h : n ≤ m) : specFields s d n parent sel ⊆ specFields s d m parent sel :=
  (spec_subset s _ _ fun nm => spreadFields_mono_le s d nm h).2 sel parent

/-- the type a field's own selection set is selected on -/
def subParent (s : Schema) (a : AstAndDef) : Option TypeDef := (a.fdef.map (·.ty.inner)).bind s.typeByName

theorem subFields_eq (s : Schema) (d : Document) (n : Nat) (a : AstAndDef) :
    subFields s d n a = specFields s d n (subParent s a) a.field.sel := rfl

/-- `a` is among the fields the selection set collects, following spreads as far as needed -/
def Mem (s : Schema) (d : Document) (parent : Option TypeDef) (sel : List Selection) (a : AstAndDef) : Prop :=
  ∃ n, a ∈ specFields s d n parent sel
def MemFrag (s : Schema) (d : Document) (nm : Name) (a : AstAndDef) : Prop := ∃ n, a ∈ spreadFields s d n nm
def MemSub (s : Schema) (d : Document) (a x : AstAndDef) : Prop := Mem s d (subParent s a) a.field.sel x

theorem memSub_iff (s : Schema) (d : Document) (a x : AstAndDef) : MemSub s d a x ↔ ∃ n, x ∈ subFields s d n a := Iff.rfl

/-- SameResponseShape(a, b) fails: the types disagree, or two same-key fields below them do -/
inductive ShapeBad (s : Schema) (d : Document) : AstAndDef → AstAndDef → Prop
  | types {a b : AstAndDef} : typesAgree s a b = false → ShapeBad s d a b
  | nested {a b x y : AstAndDef} : MemSub s d a x → MemSub s d b y → keyOf x = keyOf y → ShapeBad s d x y → ShapeBad s d a b

/-- the test FieldsInSetCanMerge applies to two same-key fields fails -/
inductive PairBad (s : Schema) (d : Document) : AstAndDef → AstAndDef → Prop
  | shape {a b : AstAndDef} : ShapeBad s d a b → PairBad s d a b
  | name {a b : AstAndDef} : parentsMayCoincide a b = true → (a.field.name == b.field.name) = false → PairBad s d a b
  | args {a b : AstAndDef} : parentsMayCoincide a b = true →
      (identicalArguments a.field.args b.field.args = false ∨ identicalArguments b.field.args a.field.args = false) →
      PairBad s d a b
  | nested {a b x y : AstAndDef} : parentsMayCoincide a b = true → MemSub s d a x → MemSub s d b y →
      keyOf x = keyOf y → PairBad s d x y → PairBad s d a b
  | nestedSwap {a b x y : AstAndDef} : parentsMayCoincide a b = true → MemSub s d a x → MemSub s d b y →
      keyOf x = keyOf y → PairBad s d y x → PairBad s d a b

theorem typesAgree_comm (s : Schema) (a b : AstAndDef) : typesAgree s a b = typesAgree s b a := by
  unfold typesAgree
  cases a.fdef <;> cases b.fdef <;> simp [C05.shapesAgree_comm]

theorem parentsMayCoincide_comm (a b : AstAndDef) : parentsMayCoincide a b = parentsMayCoincide b a := by
  unfold parentsMayCoincide
  rw [bne_comm]
  cases (optName b.parent != optName a.parent) <;> cases optIsObject a.parent <;> cases optIsObject b.parent <;> rfl

theorem ShapeBad.symm {s : Schema} {d : Document} {a b : AstAndDef} (h : ShapeBad s d a b) : ShapeBad s d b a := by
  induction h with
  | types h => exact .types ((typesAgree_comm s _ _).trans h)
  | nested hx hy hk _ ih => exact .nested hy hx hk.symm ih

theorem PairBad.symm {s : Schema} {d : Document} {a b : AstAndDef} (h : PairBad s d a b) : PairBad s d b a := by
  induction h with
  | shape h => exact .shape h.symm
  | name hp hn => exact .name ((parentsMayCoincide_comm _ _).trans hp) (Bool.beq_comm.trans hn)
  | args hp ha => exact .args ((parentsMayCoincide_comm _ _).trans hp) ha.symm
  | nested hp hx hy hk h _ => exact .nestedSwap ((parentsMayCoincide_comm _ _).trans hp) hy hx hk.symm h
  | nestedSwap hp hx hy hk h _ => exact .nested ((parentsMayCoincide_comm _ _).trans hp) hy hx hk.symm h

/-- what a comparison under the flag `me` (parents mutually exclusive) can find -/
def Fails (s : Schema) (d : Document) (me : Bool) (a b : AstAndDef) : Prop :=
  if me then ShapeBad s d a b else PairBad s d a b

theorem Fails.of_shape {s : Schema} {d : Document} {a b : AstAndDef} (me : Bool) (h : ShapeBad s d a b) : Fails s d me a b := by
  cases me
  · exact PairBad.shape h
  · exact h

theorem Fails.symm {s : Schema} {d : Document} {me : Bool} {a b : AstAndDef} (h : Fails s d me a b) : Fails s d me b a := by
  cases me
  · exact PairBad.symm h
  · exact ShapeBad.symm h

theorem meOf_eq_false {pe : Bool} {a b : AstAndDef} (h : meOf pe a b = false) :
    pe = false ∧ parentsMayCoincide a b = true := by
  cases pe
  · exact ⟨rfl, by rw [meOf_false] at h; simpa using h⟩
  · cases h

theorem Fails.of_pcFlat {s : Schema} {d : Document} {me : Bool} {a b : AstAndDef} (h : pcFlat s me a b = true) :
    Fails s d me a b := by
  simp only [pcFlat, Bool.or_eq_true, Bool.and_eq_true, Bool.not_eq_true'] at h
  rcases h with (⟨hm, hn⟩ | ⟨hm, ha⟩) | ht
  · obtain ⟨rfl, hp⟩ := meOf_eq_false hm
    exact PairBad.name hp (by simpa using hn)
  · obtain ⟨rfl, hp⟩ := meOf_eq_false hm
    exact PairBad.args hp (Or.inl ha)
  · exact Fails.of_shape me (.types (by rw [typeConflictB_iff] at ht; simpa using ht))

theorem Fails.nested {s : Schema} {d : Document} {me : Bool} {a b x y : AstAndDef} (hx : MemSub s d a x)
    (hy : MemSub s d b y) (hk : keyOf x = keyOf y) (h : Fails s d (meOf me a b) x y) : Fails s d me a b := by
  cases hm : meOf me a b with
  | true => rw [hm] at h; exact Fails.of_shape me (.nested hx hy hk h)
  | false =>
    rw [hm] at h
    obtain ⟨rfl, hp⟩ := meOf_eq_false hm
    exact PairBad.nested hp hx hy hk h

/-- `a` is a value of the field map -/
def FM (fm : FieldMap) (a : AstAndDef) : Prop := ∃ kv ∈ fm, a ∈ kv.2
def KeyOk (fm : FieldMap) : Prop := ∀ kv ∈ fm, ∀ a ∈ kv.2, keyOf a = kv.1

theorem keyOk_nil : KeyOk [] := fun _ h => nomatch h

theorem fm_alUpdate_iff {fm : FieldMap} {k : Name} {a b : AstAndDef} : FM (alUpdate fm k [] (· ++ [b])) a ↔ FM fm a ∨ a = b := by
  constructor
  · exact fun ⟨_, hp, ha⟩ => (mem_alUpdate_snoc hp ha).imp (fun ⟨q, hq, _, hx⟩ => ⟨q, hq, hx⟩) And.right
  · rintro (⟨⟨k', v⟩, hkv, ha⟩ | rfl)
    · by_cases hk : k' = k
      · exact ⟨(k, v ++ [b]), mem_alUpdate.2 (Or.inr (Or.inl ⟨v, hk ▸ hkv, rfl⟩)), List.mem_append_left _ ha⟩
      · exact ⟨(k', v), mem_alUpdate.2 (Or.inl ⟨hkv, hk⟩), ha⟩
    · by_cases hk : k ∈ alKeys fm
      · obtain ⟨⟨_, v⟩, hv, rfl⟩ := List.mem_map.1 hk
        exact ⟨_, mem_alUpdate.2 (Or.inr (Or.inl ⟨v, hv, rfl⟩)), List.mem_append_right _ (List.mem_singleton_self a)⟩
      · exact ⟨_, mem_alUpdate.2 (Or.inr (Or.inr ⟨hk, rfl⟩)), List.mem_singleton_self a⟩

theorem fm_groupInto_iff : ∀ {F : List AstAndDef} {fm : FieldMap} {a : AstAndDef}, FM (groupInto fm F) a ↔ FM fm a ∨ a ∈ F
  | [], _, _ => (or_iff_left List.not_mem_nil).symm
  | b :: F, fm, a => by
      rw [List.mem_cons, ← or_assoc, ← fm_alUpdate_iff]
      exact fm_groupInto_iff (F := F)

theorem keyOk_groupInto (F : List AstAndDef) (fm : FieldMap) (h : KeyOk fm) : KeyOk (groupInto fm F) :=
  fun _ hkv x hx => (mem_groupInto_val F hkv hx).elim (fun ⟨q, hq, hk, hx⟩ => (h q hq x hx).trans hk) And.right

theorem collectSel_fields (s : Schema) : ∀ (x : Selection) (parent : Option TypeDef) (acc : FieldMap × List Name) (a : AstAndDef),
    FM (mergeCollectSel s parent x acc).1 a → FM acc.1 a ∨ a ∈ specFieldsSelWith s (fun _ => []) parent x := by
  intro x parent acc a h
  rw [(collect_map s).1] at h
  exact fm_groupInto_iff.1 h

theorem collectSels_fields (s : Schema) : ∀ (xs : List Selection) (parent : Option TypeDef) (acc : FieldMap × List Name) (a : AstAndDef),
    FM (mergeCollectSels s parent xs acc).1 a → FM acc.1 a ∨ a ∈ specFieldsWith s (fun _ => []) parent xs := by
  intro xs parent acc a h
  rw [(collect_map s).2] at h
  exact fm_groupInto_iff.1 h

theorem collectSel_keyOk (s : Schema) : ∀ (x : Selection) (parent : Option TypeDef) (acc : FieldMap × List Name),
    KeyOk acc.1 → KeyOk (mergeCollectSel s parent x acc).1 := by
  intro x parent acc h
  rw [(collect_map s).1]
  exact keyOk_groupInto _ _ h

theorem collectSel_names (s : Schema) : ∀ (x : Selection) (parent : Option TypeDef) (acc : FieldMap × List Name) (nm : Name),
    nm ∈ (mergeCollectSel s parent x acc).2 →
      nm ∈ acc.2 ∨ ∀ sp : Name → List AstAndDef, sp nm ⊆ specFieldsSelWith s sp parent x :=
  fun x parent acc nm h => (((mem_collect_names s nm).1 x parent acc).1 h).imp_right fun hnm sp a ha =>
    ((mem_specFields_iff s sp a).1 x parent).2 (Or.inr (List.mem_flatMap.2 ⟨nm, hnm, ha⟩))

theorem fafn_facts (s : Schema) (d : Document) (parent : Option TypeDef) (sel : List Selection) :
    KeyOk (fieldsAndFragmentNames s parent sel).1 ∧
    (∀ a, FM (fieldsAndFragmentNames s parent sel).1 a → ∀ n, a ∈ specFields s d n parent sel) ∧
    (∀ nm ∈ (fieldsAndFragmentNames s parent sel).2, ∀ n, spreadFields s d n nm ⊆ specFields s d n parent sel) := by
  unfold fieldsAndFragmentNames
  rw [(collect_map s).2]
  refine ⟨keyOk_groupInto _ _ keyOk_nil, ?_, ?_⟩
  · intro a ha n
    exact ((mem_specFields_iff s _ a).2 sel parent).2
      (Or.inl ((fm_groupInto_iff.1 ha).resolve_left fun ⟨_, hkv, _⟩ => nomatch hkv))
  · intro nm hnm n a ha
    have htop := (((mem_collect_names s nm).2 sel parent ([], [])).1 hnm).resolve_left List.not_mem_nil
    exact ((mem_specFields_iff s _ a).2 sel parent).2 (Or.inr (List.mem_flatMap.2 ⟨nm, htop, ha⟩))

theorem fafn_mem (s : Schema) (d : Document) (parent : Option TypeDef) (sel : List Selection) (a : AstAndDef)
    (h : FM (fieldsAndFragmentNames s parent sel).1 a) : Mem s d parent sel a :=
  ⟨0, (fafn_facts s d parent sel).2.1 a h 0⟩

theorem fafn_memFrag (s : Schema) (d : Document) (parent : Option TypeDef) (sel : List Selection) (nm : Name)
    (hnm : nm ∈ (fieldsAndFragmentNames s parent sel).2) (b : AstAndDef) (hb : MemFrag s d nm b) : Mem s d parent sel b := by
  obtain ⟨n, hb⟩ := hb
  exact ⟨n, (fafn_facts s d parent sel).2.2 nm hnm n hb⟩

theorem ref_mem (s : Schema) (d : Document) (nm : Name) (fr : FragDef) (hfr : d.fragByName nm = some fr) (a : AstAndDef)
    (h : FM (referencedFieldsAndFragmentNames s fr).1 a) : MemFrag s d nm a := by
  refine ⟨1, ?_⟩
  rw [spreadFields_succ_some s d 0 nm fr hfr]
  exact (fafn_facts s d (s.typeByName fr.tc) fr.sel).2.1 a h 0

theorem ref_memFrag (s : Schema) (d : Document) (nm : Name) (fr : FragDef) (hfr : d.fragByName nm = some fr) (nm2 : Name)
    (hnm : nm2 ∈ (referencedFieldsAndFragmentNames s fr).2) (b : AstAndDef) (hb : MemFrag s d nm2 b) : MemFrag s d nm b := by
  obtain ⟨n, hb⟩ := hb
  refine ⟨n + 1, ?_⟩
  rw [spreadFields_succ_some s d n nm fr hfr]
  exact (fafn_facts s d (s.typeByName fr.tc) fr.sel).2.2 nm2 hnm n hb

end Gql
