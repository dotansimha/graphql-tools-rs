/-
  Lemmas/PositionsMerge.lean — every position the field-merging rule puts into a conflict is the
  position of a field node of the document (whatever it compares, through whatever fragments).
-/
import GqlVerif.Lemmas.Positions
import GqlVerif.Lemmas.MergeSound
namespace Gql
open Gql.Spec

def GoodC (d : Document) (c : Conflict) : Prop := ∀ p ∈ c.pos1 ++ c.pos2, p ∈ docPositions d

theorem fieldIn_pos {d : Document} {a : AstAndDef} (h : FieldIn (traverseDocument d) a) : a.field.pos ∈ docPositions d :=
  pos_of_enter h.1 rfl

theorem spreadFields_fieldIn (s : Schema) (d : Document) : ∀ (n : Nat) (nm : Name) (a : AstAndDef),
    a ∈ spreadFields s d n nm → FieldIn (traverseDocument d) a
  | 0, _, _, h => nomatch h
  | n + 1, nm, a, h => by
    cases hfr : d.fragByName nm with
    | none => rw [spreadFields_succ_none s d n nm hfr] at h; cases h
    | some fr =>
      rw [spreadFields_succ_some s d n nm fr hfr] at h
      rcases (field_entered_sel_sels s _).2 fr.sel _ a h with ⟨nm', h⟩ | h
      · exact spreadFields_fieldIn s d n nm' a h
      · exact (whole_document d).fieldIn (incl_fragByName d nm fr hfr _ h)

theorem mem_fieldIn {s : Schema} {d : Document} {parent : Option TypeDef} {sel : List Selection} (hin : Incl d sel)
    (a : AstAndDef) : Mem s d parent sel a → FieldIn (traverseDocument d) a := by
  rintro ⟨n, h⟩
  rcases (field_entered_sel_sels s _).2 sel parent a h with ⟨nm, h⟩ | h
  · exact spreadFields_fieldIn s d n nm a h
  · exact (whole_document d).fieldIn (hin _ h)

theorem goodC_pair {d : Document} {a b : AstAndDef} (ha : FieldIn (traverseDocument d) a) (hb : FieldIn (traverseDocument d) b)
    (key : Name) (r : Reason) : GoodC d ⟨key, r, [a.field.pos], [b.field.pos]⟩ := by
  intro p hp
  simp only [List.cons_append, List.nil_append, List.mem_cons, List.not_mem_nil, or_false] at hp
  rcases hp with rfl | rfl
  · exact fieldIn_pos ha
  · exact fieldIn_pos hb

theorem subfieldConflicts_good {d : Document} {cs : List Conflict} {key : Name} {p : Pos} {c : Conflict}
    (hcs : ∀ c ∈ cs, GoodC d c) (hp : p ∈ docPositions d) (h : subfieldConflicts cs key p p = some c) :
    GoodC d c := by
  unfold subfieldConflicts at h
  split at h
  · cases h
  · cases h
    intro q hq
    simp only [List.cons_append, List.mem_cons, List.mem_append, List.mem_flatMap] at hq
    rcases hq with rfl | ⟨c', hc', hq⟩ | rfl | ⟨c', hc', hq⟩
    · exact hp
    · exact hcs c' hc' q (List.mem_append_left _ hq)
    · exact hp
    · exact hcs c' hc' q (List.mem_append_left _ hq)

theorem accounts_positions (s : Schema) (d : Document) :
    Accounts s d (fun _ a b c => FieldIn (traverseDocument d) a → FieldIn (traverseDocument d) b → GoodC d c) where
  flat := fun key r _ ha hb => goodC_pair ha hb key r
  nested := fun hr h ha hb => subfieldConflicts_good
    (fun c' hc' => let ⟨x, y, hx, hy, _, hw⟩ := hr c' hc'; hw (mem_fieldIn ha.2 x hx) (mem_fieldIn hb.2 y hy))
    (fieldIn_pos ha) h
  symm := fun h hb ha => h ha hb

theorem selset_positions (s : Schema) (d : Document) (fuel : Nat) (parent : Option TypeDef) (sel : List Selection) (st : MState)
    (hin : Incl d sel) : ∀ c ∈ (conflictsWithinSelectionSet s d fuel parent sel st).1, GoodC d c := by
  intro c hc
  obtain ⟨a, b, ha, hb, _, hw⟩ := selset_reports (accounts_positions s d) fuel parent sel st c hc
  exact hw (mem_fieldIn hin a ha) (mem_fieldIn hin b hb)

end Gql
