/-
  Lemmas/MergeTerm.lean — the recursion of the field-merging rule ends on every document whose
  fragment spreads form no cycle (whatever the schema, the memo table and the visited list):
  given `(2·#fragments + 4) · (h + 1)` units of fuel, where `h` is the expanded height of the
  compared selection sets, none of the five mutually recursive functions runs out of fuel.

  Measure: the expanded height `Hs` (fields nested through inline fragments and spreads; it drops
  from a collected field to its own selection set — `descent`), and inside one level the length of
  the longest chain of nested spreads from the fragment(s) being expanded (`ChainBound`, at most
  `#fragments` without cycles).
-/
import GqlVerif.Lemmas.FuelAdequate
import GqlVerif.Lemmas.MergeCalls
namespace Gql
open Gql.Spec

theorem fafn_top (s : Schema) (parent : Option TypeDef) (sel : List Selection) (nm : Name)
    (h : nm ∈ (fieldsAndFragmentNames s parent sel).2) : nm ∈ topSpreads sel :=
  (((mem_collect_names s nm).2 sel parent ([], [])).1 h).resolve_left List.not_mem_nil

theorem le_hSelW_of_top (sp : Name → Nat) : ∀ (x : Selection) (nm : Name), nm ∈ topSpreadsSel x → sp nm ≤ hSelW sp x :=
  fun x nm => ((hSelW_weight sp).le_of_top nm).1 x

/-- every field of a map is at most this high (`0`: the map has no field) -/
def FMle (d : Document) (fm : FieldMap) (M : Nat) : Prop := ∀ a, FM fm a → ha d a + 1 ≤ M

theorem fafn_le (s : Schema) (d : Document) (hac : ¬ FragmentCycle d) (parent : Option TypeDef) (sel : List Selection) :
    FMle d (fieldsAndFragmentNames s parent sel).1 (Hs d sel) :=
  fun a h => descent s d hac 0 parent sel a ((fafn_facts s d parent sel).2.1 a h 0)

theorem fafn_Hf (s : Schema) (d : Document) (parent : Option TypeDef) (sel : List Selection) (nm : Name)
    (h : nm ∈ (fieldsAndFragmentNames s parent sel).2) : Hf d nm ≤ Hs d sel :=
  ((hSelW_weight (Hf d)).le_of_top nm).2 sel (fafn_top s parent sel nm h)

theorem fafn_bound (s : Schema) (d : Document) (hac : ¬ FragmentCycle d) (parent : Option TypeDef) (sel : List Selection)
    {M : Nat} (hM : Hs d sel ≤ M) :
    FMle d (fieldsAndFragmentNames s parent sel).1 M ∧ ∀ x ∈ (fieldsAndFragmentNames s parent sel).2, Hf d x ≤ M :=
  ⟨fun a ha' => Nat.le_trans (fafn_le s d hac _ sel a ha') hM, fun x hx => Nat.le_trans (fafn_Hf s d _ sel x hx) hM⟩

theorem ref_le (s : Schema) (d : Document) (hac : ¬ FragmentCycle d) {nm : Name} {fr : FragDef} (h : d.fragByName nm = some fr)
    {M : Nat} (hM : Hf d nm ≤ M) :
    FMle d (referencedFieldsAndFragmentNames s fr).1 M ∧ ∀ x ∈ (referencedFieldsAndFragmentNames s fr).2, Hf d x ≤ M := by
  rw [Hf_eq d hac nm, h] at hM
  exact fafn_bound s d hac _ fr.sel hM

theorem ref_succ (s : Schema) (d : Document) (nm : Name) (fr : FragDef) (h : d.fragByName nm = some fr) (x : Name)
    (hx : x ∈ (referencedFieldsAndFragmentNames s fr).2) : x ∈ expandSucc d nm := by
  unfold expandSucc; rw [h]
  exact fafn_top s _ _ x hx

theorem chain_all (d : Document) (hac : ¬ FragmentCycle d) (nm : Name) : ChainBound (expandSucc d) d.fragments.length nm :=
  chainBound_acyclic d (expandSucc d) (expandSucc_spreadSucc d) hac nm

theorem fm_of_alGet {fm : FieldMap} {k : Name} {b : AstAndDef} (h : b ∈ (alGet fm k).getD []) : FM fm b := by
  cases hg : alGet fm k with
  | none => rw [hg] at h; cases h
  | some l => rw [hg] at h; exact ⟨(k, l), mem_of_alGet fm k l hg, h⟩

theorem foldl_ns {α : Type} (step : MRes → α → MRes) : ∀ (L : List α) (acc : MRes), acc.2.stuck = false →
    (∀ acc x, x ∈ L → acc.2.stuck = false → (step acc x).2.stuck = false) → (L.foldl step acc).2.stuck = false :=
  fun L acc h hstep => foldl_inv_mem (fun acc : MRes => acc.2.stuck = false) L acc h hstep

theorem runAll_ns {α : Type} {f : α → MState → MRes} (L : List α) (acc : MRes) (h : acc.2.stuck = false)
    (hf : ∀ x ∈ L, ∀ st, st.stuck = false → (f x st).2.stuck = false) : (runAll f L acc).2.stuck = false :=
  foldl_ns _ L acc h fun acc x hx hacc => hf x hx acc.2 hacc

/-- the constant per level: `2·#fragments + 4` -/
def cK (d : Document) : Nat := 2 * d.fragments.length + 4

/-- `find_conflict` ends on fields of height at most `M` -/
def FcAt (s : Schema) (d : Document) (M : Nat) : Prop :=
  ∀ n key a b me st, cK d * (M + 1) ≤ n → st.stuck = false → ha d a ≤ M → ha d b ≤ M →
    (findConflict s d n key a b me st).2.stuck = false

def CbAt (s : Schema) (d : Document) (M : Nat) : Prop :=
  ∀ n me fm1 fm2 st, cK d * M + 1 ≤ n → st.stuck = false → FMle d fm1 M → FMle d fm2 M →
    (conflictsBetween s d n me fm1 fm2 st).2.stuck = false

theorem cb_of (s : Schema) (d : Document) (M : Nat) (ih : ∀ M', M' < M → FcAt s d M') : CbAt s d M := by
  intro n me fm1 fm2 st hn hst h1 h2
  obtain ⟨n, rfl, hfuel⟩ := exists_succ_of_le hn
  rw [conflictsBetween_unstuck s d n me fm1 fm2 hst]
  refine foldl_ns _ fm1 _ hst fun acc kv hkv hacc => foldl_ns _ kv.2 _ hacc fun acc f1 hf1 hacc =>
    foldl_ns _ _ _ hacc fun acc f2 hf2 hacc => ?_
  have hm1 := h1 f1 ⟨kv, hkv, hf1⟩
  have hm2 := h2 f2 (fm_of_alGet hf2)
  obtain ⟨M, rfl, _⟩ := exists_succ_of_le hm1
  exact ih M (Nat.lt_succ_self M) n kv.1 f1 f2 me acc.2 hfuel hacc (Nat.le_of_succ_le_succ hm1) (Nat.le_of_succ_le_succ hm2)

def FfAt (s : Schema) (d : Document) (M k : Nat) : Prop :=
  ∀ n fm nm me st, k + cK d * M + 2 ≤ n → st.stuck = false → FMle d fm M → Hf d nm ≤ M →
    ChainBound (expandSucc d) k nm → (fieldsAndFragment s d n fm nm me st).2.stuck = false

theorem ff_of (s : Schema) (d : Document) (hac : ¬ FragmentCycle d) (M : Nat) (hcb : CbAt s d M) : ∀ k, FfAt s d M k := by
  intro k
  induction k using Nat.strongRecOn with
  | _ k ih =>
    intro n fm nm me st hn hst hfm hnm hch
    obtain ⟨n, rfl, hfuel⟩ := exists_succ_of_le hn
    cases hfrag : d.fragByName nm with
    | none => rw [fieldsAndFragment_undefined s d n fm me st hfrag]; exact hst
    | some frag =>
      obtain ⟨hle, hH⟩ := ref_le s d hac hfrag hnm
      rw [fieldsAndFragment_unstuck s d n fm me hst hfrag]
      by_cases hself : (referencedFieldsAndFragmentNames s frag).2.contains nm = true
      · rw [if_pos hself]; exact hst
      rw [if_neg hself]
      refine foldl_ns _ _ _ (hcb n me fm _ st (by omega) hst hfm hle) fun acc fn2 hfn2 hacc => ?_
      unfold visitStep
      by_cases hv : acc.2.visited.contains fn2 = true
      · rw [if_pos hv]; exact hacc
      rw [if_neg hv]
      -- one step along the chain of nested spreads
      obtain ⟨k', rfl, hch2⟩ := hch.succ (ref_succ s d nm frag hfrag fn2 hfn2)
      exact ih k' (Nat.lt_succ_self k') n fm fn2 me _ (by omega) hacc hfm (hH fn2 hfn2) hch2

def BfAt (s : Schema) (d : Document) (M K : Nat) : Prop :=
  ∀ k1 k2, k1 + k2 ≤ K → ∀ n n1 n2 me st, K + cK d * M + 2 ≤ n → st.stuck = false → Hf d n1 ≤ M → Hf d n2 ≤ M →
    ChainBound (expandSucc d) k1 n1 → ChainBound (expandSucc d) k2 n2 → (betweenFragments s d n n1 n2 me st).2.stuck = false

theorem bf_of (s : Schema) (d : Document) (hac : ¬ FragmentCycle d) (M : Nat) (hcb : CbAt s d M) : ∀ K, BfAt s d M K := by
  intro K
  induction K using Nat.strongRecOn with
  | _ K ih =>
    intro k1 k2 hk n n1 n2 me st hn hst h1 h2 hc1 hc2
    obtain ⟨n, rfl, hfuel⟩ := exists_succ_of_le hn
    by_cases hskip : (n1 == n2) = true ∨ st.compared.containsPair n1 n2 me = true
    · rw [betweenFragments_skip s d n st hskip]; exact hst
    have hne : (n1 == n2) = false := Bool.eq_false_iff.2 fun h => hskip (Or.inl h)
    have hc : st.compared.containsPair n1 n2 me = false := Bool.eq_false_iff.2 fun h => hskip (Or.inr h)
    by_cases hund : d.fragByName n1 = none ∨ d.fragByName n2 = none
    · rw [betweenFragments_undefined s d n hst hne hc hund]; exact hst
    obtain ⟨f1, hf1⟩ := Option.ne_none_iff_exists'.1 fun h => hund (Or.inl h)
    obtain ⟨f2, hf2⟩ := Option.ne_none_iff_exists'.1 fun h => hund (Or.inr h)
    obtain ⟨hle1, hH1⟩ := ref_le s d hac hf1 h1
    obtain ⟨hle2, hH2⟩ := ref_le s d hac hf2 h2
    rw [betweenFragments_unstuck s d n hst hne hc hf1 hf2]
    -- each nested call shortens one of the two chains
    refine runAll_ns _ _ (runAll_ns _ _ (hcb n me _ _ _ (by omega) hst hle1 hle2) fun x hx st' hst' => ?_) fun x hx st' hst' => ?_
    · obtain ⟨k2', rfl, hc2'⟩ := hc2.succ (ref_succ s d n2 f2 hf2 x hx)
      exact ih (k1 + k2') (by omega) k1 k2' (Nat.le_refl _) n n1 x me st' (by omega) hst' h1 (hH2 x hx) hc1 hc2'
    · obtain ⟨k1', rfl, hc1'⟩ := hc1.succ (ref_succ s d n1 f1 hf1 x hx)
      exact ih (k1' + k2) (by omega) k1' k2 (Nat.le_refl _) n x n2 me st' (by omega) hst' (hH1 x hx) h2 hc1' hc2

def BsAt (s : Schema) (d : Document) (M : Nat) : Prop :=
  ∀ n me pn1 sel1 pn2 sel2 st, 2 * d.fragments.length + cK d * M + 3 ≤ n → st.stuck = false → Hs d sel1 ≤ M → Hs d sel2 ≤ M →
    (betweenSubSelectionSets s d n me pn1 sel1 pn2 sel2 st).2.stuck = false

theorem bs_of (s : Schema) (d : Document) (hac : ¬ FragmentCycle d) (M : Nat) (hcb : CbAt s d M)
    (hff : FfAt s d M d.fragments.length) (hbf : BfAt s d M (2 * d.fragments.length)) : BsAt s d M := by
  intro n me pn1 sel1 pn2 sel2 st hn hst h1 h2
  obtain ⟨n, rfl, hfuel⟩ := exists_succ_of_le hn
  rw [betweenSubSelectionSets_unstuck s d n me pn1 sel1 pn2 sel2 hst rfl rfl]
  obtain ⟨hle1, hH1⟩ := fafn_bound s d hac (pn1.bind s.typeByName) sel1 h1
  obtain ⟨hle2, hH2⟩ := fafn_bound s d hac (pn2.bind s.typeByName) sel2 h2
  have hn' : d.fragments.length + cK d * M + 2 ≤ n := by omega
  refine foldl_ns _ _ _ (runAll_ns _ _ (runAll_ns _ _ (hcb n me _ _ st (by omega) hst hle1 hle2) ?_) ?_) ?_
  · exact fun fn hfn st' hst' => hff n _ fn me st' hn' hst' hle1 (hH2 fn hfn) (chain_all d hac fn)
  · exact fun fn hfn st' hst' => hff n _ fn me st' hn' hst' hle2 (hH1 fn hfn) (chain_all d hac fn)
  · exact fun acc a ha' hacc => runAll_ns _ _ hacc fun b hb st' hst' =>
      hbf _ _ (Nat.le_of_eq (Nat.two_mul _).symm) n a b me st' hfuel hst' (hH1 a ha') (hH2 b hb) (chain_all d hac a) (chain_all d hac b)

theorem fc_of (s : Schema) (d : Document) (M : Nat) (hbs : BsAt s d M) : FcAt s d M := by
  intro n key a b me st hn hst h1 h2
  have hck : cK d = 2 * d.fragments.length + 4 := rfl
  have hn' : 2 * d.fragments.length + cK d * M + 3 + 1 ≤ n := by rw [Nat.mul_succ] at hn; omega
  obtain ⟨n, rfl, hfuel⟩ := exists_succ_of_le hn'
  rcases findConflict_state s d n key a b me hst with h | h
  · rw [h]; exact hst
  · rw [h]; exact hbs n _ _ _ _ _ st hfuel hst h1 h2

/-- **`find_conflict` ends** on fields of any height, on a document without fragment cycles -/
theorem fc_all (s : Schema) (d : Document) (hac : ¬ FragmentCycle d) : ∀ M, FcAt s d M := by
  intro M
  induction M using Nat.strongRecOn with
  | _ M ih =>
    have hcb := cb_of s d M ih
    exact fc_of s d M (bs_of s d hac M hcb (ff_of s d hac M hcb _) (bf_of s d hac M hcb _))

theorem cb_all (s : Schema) (d : Document) (hac : ¬ FragmentCycle d) (M : Nat) : CbAt s d M :=
  cb_of s d M (fun M' _ => fc_all s d hac M')

/-- `find_conflicts_within_selection_set` ends, given `cK · (height + 1)` units of fuel -/
theorem selset_terminates (s : Schema) (d : Document) (hac : ¬ FragmentCycle d) (fuel : Nat) (parent : Option TypeDef)
    (sel : List Selection) (st : MState) (hst : st.stuck = false) (hf : cK d * (Hs d sel + 1) ≤ fuel) :
    (conflictsWithinSelectionSet s d fuel parent sel st).2.stuck = false := by
  have hck : cK d = 2 * d.fragments.length + 4 := rfl
  obtain ⟨hle, hH⟩ := fafn_bound s d hac parent sel (Nat.le_refl _)
  have hcb := cb_all s d hac (Hs d sel)
  have hff := ff_of s d hac (Hs d sel) hcb d.fragments.length
  have hbf := bf_of s d hac (Hs d sel) hcb (2 * d.fragments.length)
  have hf1 : d.fragments.length + cK d * Hs d sel + 2 ≤ fuel := by rw [Nat.mul_succ] at hf; omega
  have hf2 : 2 * d.fragments.length + cK d * Hs d sel + 2 ≤ fuel := by rw [Nat.mul_succ] at hf; omega
  -- the loop over the recorded fragment names
  refine loop_inv s d fuel _ (fun acc => acc.2.stuck = false) _ _ ?_ fun f1 rest acc hsub hacc =>
    have h1 := hH f1 (hsub f1 List.mem_cons_self)
    runAll_ns (f := fun f2 => betweenFragments s d fuel f1 f2 false) rest _
      (hff fuel _ f1 false acc.2 hf1 hacc hle h1 (chain_all d hac f1))
      fun f2 hf2' st' hst' => hbf _ _ (Nat.le_of_eq (Nat.two_mul _).symm) fuel f1 f2 false st' hf2 hst' h1
        (hH f2 (hsub f2 (List.mem_cons_of_mem f1 hf2'))) (chain_all d hac f1) (chain_all d hac f2)
  -- the fields of the set against each other
  refine foldl_ns _ _ _ hst fun acc kv hkv hacc => foldl_ns _ _ _ hacc fun acc p hp hacc => ?_
  obtain ⟨hp1, hp2⟩ := mem_orderedPairs kv.2 p hp
  have hm1 := hle p.1 ⟨kv, hkv, hp1⟩
  have hm2 := hle p.2 ⟨kv, hkv, hp2⟩
  generalize Hs d sel = H at hm1 hm2 hf
  obtain ⟨M, rfl, _⟩ := exists_succ_of_le hm1
  exact fc_all s d hac M fuel kv.1 p.1 p.2 false acc.2 (Nat.le_trans (Nat.mul_le_mul_left _ (Nat.le_succ _)) hf) hacc
    (Nat.le_of_succ_le_succ hm1) (Nat.le_of_succ_le_succ hm2)

end Gql
