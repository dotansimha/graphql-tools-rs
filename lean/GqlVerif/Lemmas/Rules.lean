/-
  Lemmas/Rules.lean — generic facts about rules as folds, with the facts about `foldl`, `flatMap`
  and `filter` they need.
-/
import GqlVerif.Model.Validate
namespace Gql

/-- the position a node carries (values, arguments and selection sets carry none in the AST) -/
def Node.pos? : Node → Option Pos
  | .operation o => some o.pos
  | .fragmentDef f => some f.pos
  | .varDef v => some v.pos
  | .directive d => some d.pos
  | .field f => some f.pos
  | .spread sp => some sp.pos
  | .inline i => some i.pos
  | _ => none

def Ev.pos? : Ev → Option Pos
  | .enter n => n.pos?
  | .leave _ => none


theorem foldl_inv_mem {α β : Type} (I : β → Prop) {step : β → α → β} (L : List α) :
    ∀ acc : β, I acc → (∀ acc, ∀ x ∈ L, I acc → I (step acc x)) → I (L.foldl step acc) := by
  induction L with
  | nil => exact fun _ h _ => h
  | cons x L ih =>
    exact fun acc h hstep => ih _ (hstep acc x List.mem_cons_self h) fun acc y hy =>
      hstep acc y (List.mem_cons_of_mem _ hy)

theorem runOn_inv (r : Rule) (s : Schema) (d : Document) (I : r.σ → Prop) (P : Err → Prop) (tr : Trace)
    (hinit : I r.init)
    (hon : ∀ σ, I σ → ∀ e ∈ tr, I (r.on s d σ e).1 ∧ ∀ x ∈ (r.on s d σ e).2, P x)
    (hfin : ∀ σ, I σ → ∀ x ∈ r.finish s d σ, P x) : ∀ x ∈ r.runOn s d tr, P x := by
  have key := foldl_inv_mem (fun acc : r.σ × List Err => I acc.1 ∧ ∀ x ∈ acc.2, P x) (step := r.step s d) tr (r.init, [])
    ⟨hinit, fun _ h => nomatch h⟩ fun acc e he h =>
      ⟨(hon _ h.1 e he).1, fun x hx => (List.mem_append.1 hx).elim (h.2 x) ((hon _ h.1 e he).2 x)⟩
  exact fun x hx => (List.mem_append.1 hx).elim (key.2 x) (hfin _ key.1 x)

theorem runOn_all (r : Rule) (s : Schema) (d : Document) (P : Err → Prop)
    (hon : ∀ σ e, ∀ x ∈ (r.on s d σ e).2, P x) (hfin : ∀ σ, ∀ x ∈ r.finish s d σ, P x)
    (tr : Trace) : ∀ x ∈ r.runOn s d tr, P x :=
  runOn_inv r s d (fun _ => True) P tr trivial (fun σ _ e _ => ⟨trivial, hon σ e⟩) fun σ _ => hfin σ

theorem flatMap_ne_nil_iff {α β : Type} (f : α → List β) (l : List α) :
    l.flatMap f ≠ [] ↔ ∃ a ∈ l, f a ≠ [] := by
  simp only [ne_eq, List.flatMap_eq_nil_iff, Classical.not_forall, exists_prop]

theorem filter_ne_nil_iff {α : Type} (p : α → Bool) (l : List α) : l.filter p ≠ [] ↔ ∃ x ∈ l, p x = true := by
  simp only [ne_eq, List.filter_eq_nil_iff, Classical.not_forall, exists_prop, Classical.not_not]

theorem runOn_of_local (r : Rule) (s : Schema) (d : Document) (check : Ev × Snap → List Err)
    (h : ∀ σ e, (r.on s d σ e).2 = check e) (tr : Trace) :
    ∃ σ', r.runOn s d tr = tr.flatMap check ++ r.finish s d σ' := by
  have key : ∀ (tr : Trace) (acc : r.σ × List Err),
      ∃ σ', tr.foldl (r.step s d) acc = (σ', acc.2 ++ tr.flatMap check) := by
    intro tr
    induction tr with
    | nil => intro acc; exact ⟨acc.1, by simp⟩
    | cons e tr ih =>
      intro acc
      obtain ⟨σ', h'⟩ := ih (r.step s d acc e)
      refine ⟨σ', ?_⟩
      rw [List.foldl_cons, h']
      simp [Rule.step, h, List.append_assoc]
  obtain ⟨σ', h'⟩ := key tr (r.init, [])
  exact ⟨σ', by simp [Rule.runOn, h']⟩

theorem stateless_runOn (check : Schema → Document → Ev × Snap → List Err) (s : Schema) (d : Document)
    (tr : Trace) : (Rule.stateless check).runOn s d tr = tr.flatMap (check s d) := by
  obtain ⟨σ', h⟩ := runOn_of_local (Rule.stateless check) s d (check s d) (fun _ _ => rfl) tr
  rw [h]
  show _ ++ [] = _
  simp

def AllCode (c : RuleId) (l : List Err) : Prop := ∀ x ∈ l, x.code = c

@[simp] theorem allCode_nil (c : RuleId) : AllCode c [] := fun _ h => nomatch h
@[simp] theorem allCode_cons (c : RuleId) (x : Err) (l : List Err) :
    AllCode c (x :: l) ↔ x.code = c ∧ AllCode c l := List.forall_mem_cons
@[simp] theorem allCode_append (c : RuleId) (a b : List Err) :
    AllCode c (a ++ b) ↔ AllCode c a ∧ AllCode c b := List.forall_mem_append
@[simp] theorem allCode_map {α : Type} (c : RuleId) (f : α → Err) (l : List α) :
    AllCode c (l.map f) ↔ ∀ a ∈ l, (f a).code = c := List.forall_mem_map
@[simp] theorem allCode_flatMap {α : Type} (c : RuleId) (f : α → List Err) (l : List α) :
    AllCode c (l.flatMap f) ↔ ∀ a ∈ l, AllCode c (f a) := List.forall_mem_flatMap
@[simp] theorem allCode_filterMap {α : Type} (c : RuleId) (f : α → Option Err) (l : List α) :
    AllCode c (l.filterMap f) ↔ ∀ a ∈ l, ∀ b, f a = some b → b.code = c := List.forall_mem_filterMap
@[simp] theorem allCode_ite (c : RuleId) (p : Prop) [Decidable p] (a b : List Err) :
    AllCode c (if p then a else b) ↔ (p → AllCode c a) ∧ (¬p → AllCode c b) := by
  split <;> simp_all

end Gql
