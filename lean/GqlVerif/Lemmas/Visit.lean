/-
  Lemmas/Visit.lean — the stack machine of Model/Visitor is lexical scoping:
  every traversal function returns the stacks it was given and makes exactly the callbacks of
  the environment-passing `walk*` of Spec/Walk, started from the current answers.
-/
import GqlVerif.Lemmas.Traverse
namespace Gql

@[simp] theorem snap_pushInput (s : Schema) (t : Option Ty) (st : Stacks) :
    ({ st with inp := s.resolve t :: st.inp, inpLit := t :: st.inpLit } : Stacks).snap
      = st.snap.withInput s t := rfl

@[simp] theorem snap_pushType (s : Schema) (t : Option Ty) (st : Stacks) :
    ({ st with ty := s.resolve t :: st.ty, tyLit := t :: st.tyLit } : Stacks).snap
      = st.snap.withType s t := rfl

@[simp] theorem snap_pushParent (st : Stacks) :
    ({ st with parent := top st.ty :: st.parent } : Stacks).snap = st.snap.withParent := rfl

@[simp] theorem snap_pushField (f : Option FieldDef) (st : Stacks) :
    ({ st with field := f :: st.field } : Stacks).snap = st.snap.withField f := rfl

@[simp] theorem snap_inpLit (st : Stacks) : st.snap.inpLit = top st.inpLit := rfl
@[simp] theorem snap_parent (st : Stacks) : st.snap.parent = top st.parent := rfl

/-- A traversal step "is lexical" when it restores the stacks and its callbacks are `t`
    applied to the answers at entry. -/
def Lexical (v : V) (t : Snap → Trace) : Prop := ∀ st, v st = (st, t st.snap)

theorem Lexical.skip : Lexical V.skip (fun _ => []) := fun _ => rfl

theorem Lexical.emit (e : Ev) : Lexical (emit e) (fun sn => [(e, sn)]) := fun _ => rfl

theorem Lexical.seq {a b : V} {ta tb : Snap → Trace} (ha : Lexical a ta) (hb : Lexical b tb) :
    Lexical (a ⨾ b) (fun sn => ta sn ++ tb sn) := by
  intro st; simp [V.seq, ha st, hb st]

/-- `⨾` nests to the right in the visitor where `++` nests to the left in the walk -/
theorem Lexical.assoc {a b c : V} {t : Snap → Trace} (h : Lexical ((a ⨾ b) ⨾ c) t) : Lexical (a ⨾ b ⨾ c) t := by
  intro st
  rw [← h st]
  simp only [V.seq, List.append_assoc]

theorem Lexical.withInputType (s : Schema) (t : Option Ty) {b : V} {tb : Snap → Trace}
    (hb : Lexical b tb) : Lexical (withInputType s t b) (fun sn => tb (sn.withInput s t)) := by
  intro st; simp [Gql.withInputType, hb _]

theorem Lexical.withType (s : Schema) (t : Option Ty) {b : V} {tb : Snap → Trace}
    (hb : Lexical b tb) : Lexical (withType s t b) (fun sn => tb (sn.withType s t)) := by
  intro st; simp [Gql.withType, hb _]

theorem Lexical.withParentType {b : V} {tb : Snap → Trace}
    (hb : Lexical b tb) : Lexical (withParentType b) (fun sn => tb sn.withParent) := by
  intro st; simp [Gql.withParentType, hb _]

theorem Lexical.withField (f : Option FieldDef) {b : V} {tb : Snap → Trace}
    (hb : Lexical b tb) : Lexical (withField f b) (fun sn => tb (sn.withField f)) := by
  intro st; simp [Gql.withField, hb _]

theorem visitValue_values_objFields_lexical (s : Schema) :
    (∀ v, Lexical (visitValue s v) (fun sn => walkValue s sn v)) ∧
      (∀ vs, Lexical (visitValues s vs) (fun sn => walkValues s sn vs)) ∧
      ∀ fs, Lexical (visitObjFields s fs) (fun sn => walkObjFields s sn fs) :=
  have leaf {n : Node} : Lexical (emit (.enter n) ⨾ emit (.leave n)) (fun sn => [(.enter n, sn), (.leave n, sn)]) :=
    (Lexical.emit _).seq (Lexical.emit _)
  values_induction (fun _ => leaf) (fun _ => leaf) (fun _ => leaf) (fun _ => leaf) (fun _ => leaf) leaf
    (fun _ => leaf)
    (fun _ ih st => (Lexical.emit _).seq ((Lexical.withInputType s _ ih).seq (Lexical.emit _)) st)
    (fun _ ih => (Lexical.emit _).seq (ih.seq (Lexical.emit _)))
    Lexical.skip (fun _ _ hv hvs => hv.seq hvs)
    Lexical.skip (fun _ _ _ hv hfs st =>
      (Lexical.withInputType s _ ((Lexical.emit _).seq (hv.seq (Lexical.emit _)))).seq hfs st)

theorem visitValue_lexical (s : Schema) : ∀ v, Lexical (visitValue s v) (fun sn => walkValue s sn v) :=
  (visitValue_values_objFields_lexical s).1
theorem visitValues_lexical (s : Schema) : ∀ vs, Lexical (visitValues s vs) (fun sn => walkValues s sn vs) :=
  (visitValue_values_objFields_lexical s).2.1
theorem visitObjFields_lexical (s : Schema) :
    ∀ fs, Lexical (visitObjFields s fs) (fun sn => walkObjFields s sn fs) :=
  (visitValue_values_objFields_lexical s).2.2

theorem visitArguments_lexical (s : Schema) (defs : Option (List InputValueDef)) :
    ∀ as, Lexical (visitArguments s defs as) (fun sn => walkArguments s defs sn as)
  | [] => Lexical.skip
  | a :: as =>
      (Lexical.withInputType s _ ((Lexical.emit _).seq ((visitValue_lexical s a.2).seq (Lexical.emit _)))).seq
        (visitArguments_lexical s defs as)

theorem visitDirectives_lexical (s : Schema) :
    ∀ ds, Lexical (visitDirectives s ds) (fun sn => walkDirectives s sn ds)
  | [] => Lexical.skip
  | d :: ds =>
      ((Lexical.emit _).seq ((visitArguments_lexical s _ d.args).seq (Lexical.emit _))).seq
        (visitDirectives_lexical s ds)

theorem visitVariableDefinitions_lexical (s : Schema) :
    ∀ vs, Lexical (visitVariableDefinitions s vs) (fun sn => walkVarDefs s sn vs)
  | [] => Lexical.skip
  | v :: vs => by
      have hd : Lexical (match v.default with | some dv => visitValue s dv | none => V.skip)
          (fun sn => match v.default with | some dv => walkValue s sn dv | none => []) := by
        cases v.default with
        | none => exact Lexical.skip
        | some dv => exact visitValue_lexical s dv
      exact (Lexical.withInputType s _ ((Lexical.emit _).seq (hd.seq (Lexical.emit _)))).seq
        (visitVariableDefinitions_lexical s vs)

theorem Lexical.selectionSetWith (sel : List Selection) {items : V} {t : Snap → Trace}
    (h : Lexical items t) :
    Lexical (selectionSetWith sel items) (fun sn => walkSelectionSetWith sn sel t) :=
  Lexical.withParentType ((Lexical.emit _).seq (h.seq (Lexical.emit _)))

theorem visitSelection_selections_lexical (s : Schema) :
    (∀ x, Lexical (visitSelection s x) (fun sn => walkSelection s sn x)) ∧
      ∀ xs, Lexical (visitSelections s xs) (fun sn => walkSelections s sn xs) := by
  refine sels_induction ?_ ?_ ?_ Lexical.skip (fun _ _ hx hxs => hx.seq hxs)
  · intro pos alias name args dirs sel ih st
    exact Lexical.withType s _ ((Lexical.emit _).seq ((Lexical.withField _
      (((visitArguments_lexical s _ args).seq (visitDirectives_lexical s dirs)).seq
        (Lexical.selectionSetWith sel ih)).assoc).seq (Lexical.emit _))) st
  · intro pos name dirs
    exact (Lexical.emit _).seq ((visitDirectives_lexical s dirs).seq (Lexical.emit _))
  · intro pos tc dirs sel ih
    have hb := (Lexical.emit (.enter (.inline ⟨pos, tc, dirs, sel⟩))).seq
      (((visitDirectives_lexical s dirs).seq (Lexical.selectionSetWith sel ih)).seq
        (Lexical.emit (.leave (.inline ⟨pos, tc, dirs, sel⟩)))).assoc
    cases tc with
    | none => exact hb
    | some c => exact Lexical.withType s _ hb

theorem visitSelection_lexical (s : Schema) :
    ∀ x, Lexical (visitSelection s x) (fun sn => walkSelection s sn x) :=
  (visitSelection_selections_lexical s).1
theorem visitSelections_lexical (s : Schema) :
    ∀ xs, Lexical (visitSelections s xs) (fun sn => walkSelections s sn xs) :=
  (visitSelection_selections_lexical s).2

theorem visitSelectionSet_lexical (s : Schema) (sel : List Selection) :
    Lexical (visitSelectionSet s sel) (fun sn => walkSelectionSet s sn sel) :=
  Lexical.selectionSetWith sel (visitSelections_lexical s sel)

theorem visitFragmentDefinition_lexical (s : Schema) (f : FragDef) :
    Lexical (visitFragmentDefinition s f)
      (fun sn => (.enter (.fragmentDef f), sn) :: walkDirectives s sn f.dirs ++ walkSelectionSet s sn f.sel
        ++ [(.leave (.fragmentDef f), sn)]) :=
  (Lexical.emit _).seq
    (((visitDirectives_lexical s f.dirs).seq (visitSelectionSet_lexical s f.sel)).seq (Lexical.emit _)).assoc

theorem visitOperationDefinition_lexical (s : Schema) (o : Operation) :
    Lexical (visitOperationDefinition s o)
      (fun sn => (.enter (.operation o), sn) :: walkDirectives s sn o.dirs ++ walkVarDefs s sn o.vars
          ++ walkSelectionSet s sn o.sel ++ [(.leave (.operation o), sn)]) :=
  (Lexical.emit _).seq
    ((((visitDirectives_lexical s o.dirs).seq (visitVariableDefinitions_lexical s o.vars)).seq
      (visitSelectionSet_lexical s o.sel)).seq (Lexical.emit _)).assoc.assoc

/-- Lexicality for the partial (may-panic) top level. -/
def OptLexical (ov : Option V) (ot : Snap → Option Trace) : Prop :=
  match ov with
  | none => ∀ e, ot e = none
  | some v => ∀ st, ∃ t, ot st.snap = some t ∧ v st = (st, t)

theorem OptLexical.map {ok : Option V} {tk : Snap → Option Trace} (hk : OptLexical ok tk) {f : V → V}
    {g : Snap → Trace → Trace} (hf : ∀ k st t, k st = (st, t) → f k st = (st, g st.snap t)) :
    OptLexical (ok.map f) (fun e => (tk e).map (g e)) := by
  cases ok with
  | none => exact fun e => congrArg (Option.map (g e)) (hk e)
  | some k =>
    intro st
    obtain ⟨t, ht, hkt⟩ := hk st
    exact ⟨g st.snap t, congrArg (Option.map (g st.snap)) ht, hf k st t hkt⟩

theorem OptLexical.cons {a : V} {ta : Snap → Trace} (ha : Lexical a ta) {ok : Option V}
    {tk ot : Snap → Option Trace} (hk : OptLexical ok tk) (hot : ∀ e, ot e = (tk e).map (ta e ++ ·)) :
    OptLexical (ok.map fun k => a ⨾ k) ot := by
  obtain rfl : ot = _ := funext hot
  exact hk.map fun k st t h => by simp only [V.seq, ha st, h]

theorem visitDefinitions_lexical (s : Schema) :
    ∀ ds, OptLexical (visitDefinitions s ds) (fun e => walkDefinitions s e ds)
  | [] => fun _ => ⟨[], rfl, rfl⟩
  | .frag f :: rest =>
      OptLexical.cons (Lexical.withType s _ (visitFragmentDefinition_lexical s f))
        (visitDefinitions_lexical s rest) (fun _ => walkDefinitions_cons ..)
  | .op o :: rest => by
      cases hroot : rootTypeName s o.kind with
      | none =>
        simp only [visitDefinitions, hroot]
        exact fun e => (walkDefinitions_cons ..).trans (by rw [walkDefinition, hroot]; rfl)
      | some tn =>
        simp only [visitDefinitions, hroot]
        exact OptLexical.cons (Lexical.withType s _ (visitOperationDefinition_lexical s o))
          (visitDefinitions_lexical s rest) (fun e => (walkDefinitions_cons ..).trans (by rw [walkDefinition, hroot]; rfl))

theorem visitDocument_lexical (s : Schema) (d : Document) :
    OptLexical (visitDocument s d) (fun e => walkDocument s e d) :=
  (visitDefinitions_lexical s d).map fun k st t h => by simp only [V.seq, emit, h]; rfl

end Gql
