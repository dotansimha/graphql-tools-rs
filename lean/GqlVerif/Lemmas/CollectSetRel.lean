/-
  Lemmas/CollectSetRel.lean — the set of fields CollectFields gathers does not depend on the order
  of selections; hence neither does the condition of 'single field subscriptions'.
-/
import GqlVerif.Lemmas.CollectSet
import GqlVerif.Thm.C14d
namespace Gql
open Gql.Spec

section
variable {s : Schema} {R : TypeDef}

theorem direct_rel {X : List Selection} {f : FieldNode} (h : Direct s R X f) :
    ∀ {Y : List Selection}, SelsEq X Y → ∃ sel', SelsEq f.sel sel' ∧ Direct s R Y { f with sel := sel' } := by
  induction h with
  | @here sel f hm =>
    intro Y hxy
    obtain ⟨y, hy, hr⟩ := selsEq_mem hxy _ hm
    cases f with
    | mk pos alias name args dirs fsel =>
      simp only [FieldNode.toSel] at hr
      cases hr with
      | same => exact ⟨fsel, .refl _, .here hy⟩
      | field _ _ _ _ _ hs => exact ⟨_, hs, .here hy⟩
  | @inl sel sub pos tc dirs f hm ha _ ih =>
    intro Y hxy
    obtain ⟨y, hy, hr⟩ := selsEq_mem hxy _ hm
    cases hr with
    | same =>
      obtain ⟨sel', hs, hd⟩ := ih (.refl sub)
      exact ⟨sel', hs, .inl hy ha hd⟩
    | inline _ _ _ hs0 =>
      obtain ⟨sel', hs, hd⟩ := ih hs0
      exact ⟨sel', hs, .inl hy ha hd⟩

theorem directSpread_rel {X : List Selection} {n : Name} (h : DirectSpread s R X n) :
    ∀ {Y : List Selection}, SelsEq X Y → DirectSpread s R Y n := by
  induction h with
  | @here sel pos n dirs hm =>
    intro Y hxy
    obtain ⟨y, hy, hr⟩ := selsEq_mem hxy _ hm
    cases hr with
    | same => exact .here hy
  | @inl sel sub pos tc dirs n hm ha _ ih =>
    intro Y hxy
    obtain ⟨y, hy, hr⟩ := selsEq_mem hxy _ hm
    cases hr with
    | same => exact .inl hy ha (ih (.refl sub))
    | inline _ _ _ hs0 => exact .inl hy ha (ih hs0)

theorem gets_rel {d d' : Document} (hdd : DocRel d d') {X : List Selection} {f : FieldNode} (h : Gets s d R X f) :
    ∀ {Y : List Selection}, SelsEq X Y → ∃ sel', SelsEq f.sel sel' ∧ Gets s d' R Y { f with sel := sel' } := by
  induction h with
  | direct hd =>
    intro Y hxy
    obtain ⟨sel', hs, hd'⟩ := direct_rel hd hxy
    exact ⟨sel', hs, .direct hd'⟩
  | @spread sel n frag f hsp hfr ha _ ih =>
    intro Y hxy
    have hl := fragLook hdd n
    rw [hfr] at hl
    generalize hv : d'.fragByName n = v at hl
    cases hl with
    | some _ hs0 =>
      obtain ⟨sel', hs, hg⟩ := ih hs0
      exact ⟨sel', hs, .spread (directSpread_rel hsp hxy) hv ha hg⟩

end

/-- the condition of 'single field subscriptions' does not depend on the order of selections -/
theorem subscription_selrel_mp (s : Schema) (hn : s.typeNames.Nodup) {d d' : Document} (h : DocRel d d')
    (hv : SubscriptionNotSingleField s d) : SubscriptionNotSingleField s d' := by
  obtain ⟨o, ho, hk, R, hR, fs, vis, hc, hcond⟩ := hv
  obtain ⟨osel, hos, hom⟩ := opsRel h o ho
  have hpar : ParentOk s R := by
    unfold Schema.subscriptionType at hR
    cases hsub : s.schemaDefinition.subscription with
    | none => simp [hsub] at hR
    | some nm =>
      simp only [hsub, Option.bind_some] at hR
      have := (C18.objectTypeByName_iff s hn nm R).1 hR
      exact ⟨hn, this.1, this.2.2⟩
  obtain ⟨fs', vis', hc', _⟩ := C19.collect_sound s d' R hpar osel
  refine ⟨_, hom, hk, R, hR, fs', vis', hc', ?_⟩
  have tr : ∀ f ∈ fs, ∃ sel', ({ f with sel := sel' } : FieldNode) ∈ fs' := by
    intro f hf
    obtain ⟨sel', _, hg⟩ := gets_rel h ((mem_collects_iff hc f).1 hf) hos
    exact ⟨sel', (mem_collects_iff hc' _).2 hg⟩
  rcases hcond with ⟨f, hf, g, hg, hne⟩ | ⟨f, hf, hd⟩
  · obtain ⟨sf, hf'⟩ := tr f hf
    obtain ⟨sg, hg'⟩ := tr g hg
    exact Or.inl ⟨_, hf', _, hg', hne⟩
  · obtain ⟨sf, hf'⟩ := tr f hf
    exact Or.inr ⟨_, hf', hd⟩

end Gql
