/-
  Lemmas/RuleFold.lean — the run of a rule as a fold over the few callbacks it reacts to.
-/
import GqlVerif.Model.Rules.Basic
namespace Gql

section
variable {σ β : Type}

/-- a step `g` (new state, errors reported) acting on the pair (state, errors so far) -/
def stepOf (g : σ → β → σ × List Err) (acc : σ × List Err) (b : β) : σ × List Err :=
  ((g acc.1 b).1, acc.2 ++ (g acc.1 b).2)

theorem foldl_stepOf_quiet (g : σ → β → σ × List Err) (l : List β) :
    ∀ acc : σ × List Err, (∀ st, ∀ b ∈ l, (g st b).2 = []) →
      l.foldl (stepOf g) acc = (l.foldl (fun st b => (g st b).1) acc.1, acc.2) := by
  induction l with
  | nil => exact fun _ _ => rfl
  | cons b l ih =>
    intro acc h
    rw [List.foldl_cons, ih _ fun st x hx => h st x (List.mem_cons_of_mem _ hx)]
    simp only [stepOf, h acc.1 b List.mem_cons_self, List.append_nil, List.foldl_cons]

theorem foldl_stepOf_append (g : σ → β → σ × List Err) (l : List β) : ∀ (st : σ) (errs : List Err),
    l.foldl (stepOf g) (st, errs) = ((l.foldl (stepOf g) (st, [])).1, errs ++ (l.foldl (stepOf g) (st, [])).2) := by
  induction l with
  | nil => exact fun st errs => by rw [List.foldl_nil, List.foldl_nil, List.append_nil]
  | cons b l ih =>
    intro st errs
    simp only [List.foldl_cons, stepOf]
    rw [ih _ (errs ++ _), ih _ ([] ++ _), List.nil_append, List.append_assoc]

end

/-- If `r.on` looks at a callback only through `π`, and then acts as `g`, the run of `r` is the
    fold of `g` over the projected callbacks.  The hypothesis speaks of `r.on`, not of `r.step`:
    for a callback the rule ignores both sides are `(st, [])` by computation. -/
theorem Rule.runOn_proj {β : Type} (r : Rule) (s : Schema) (d : Document) (π : Ev → Option β)
    (g : r.σ → β → r.σ × List Err)
    (h : ∀ st e, r.on s d st e = match π e.1 with | some b => g st b | none => (st, []))
    (tr : Trace) :
    r.runOn s d tr =
      (((tr.map Prod.fst).filterMap π).foldl (stepOf g) (r.init, [])).2
        ++ r.finish s d (((tr.map Prod.fst).filterMap π).foldl (stepOf g) (r.init, [])).1 := by
  have hstep : r.step s d = fun acc e => match π e.1 with | some b => stepOf g acc b | none => acc := by
    funext acc e
    simp only [Rule.step, h]
    cases π e.1 <;> simp [stepOf]
  rw [List.filterMap_map, List.foldl_filterMap]
  unfold Rule.runOn
  rw [hstep]
  rfl

end Gql
