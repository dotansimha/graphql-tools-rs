/-
  Lemmas/SchemaPerm.lean — validation depends on the schema only through its name lookups
  (`type_by_name`, `directive_by_name`, the directive map), its schema definition and the
  overlap test; two schemas that agree on those give the same callbacks and, for each of the 24
  rules, the same errors.  Permuting the definitions of a schema with unique type and directive
  names (and at most one `schema { … }` block) preserves all of them.
-/
import GqlVerif.Thm.C03
namespace Gql
open Gql.Spec

/-- the two schemas answer every lookup the validator makes in the same way -/
structure SchemaAgree (s s' : Schema) : Prop where
  tbn : s.typeByName = s'.typeByName
  dbn : s.directiveByName = s'.directiveByName
  dmg : s.directiveMapGet = s'.directiveMapGet
  sd : s.schemaDefinition = s'.schemaDefinition
  ovl : doTypesOverlap s = doTypesOverlap s'

theorem stateless_congr {s s' : Schema} {check : Schema → Document → Ev × Snap → List Err} (hc : check s = check s') :
    (Rule.stateless check).on s = (Rule.stateless check).on s' := by
  show (fun d (_ : Unit) e => ((), check s d e)) = fun d _ e => ((), check s' d e)
  rw [hc]

section
variable {s s' : Schema} (h : SchemaAgree s s')
include h

theorem agree_objectTypeByName : s.objectTypeByName = s'.objectTypeByName := by
  funext n; unfold Schema.objectTypeByName; rw [h.tbn]

theorem agree_queryType : s.queryType = s'.queryType := by
  simp only [Schema.queryType, h.sd, agree_objectTypeByName h]

theorem agree_mutationType : s.mutationType = s'.mutationType := by
  simp only [Schema.mutationType, h.sd, agree_objectTypeByName h]

theorem agree_subscriptionType : s.subscriptionType = s'.subscriptionType := by
  simp only [Schema.subscriptionType, h.sd, agree_objectTypeByName h]

theorem agree_namedSubtypeCheck : s.namedSubtypeCheck = s'.namedSubtypeCheck := by
  funext a b; unfold Schema.namedSubtypeCheck; rw [h.tbn]

theorem agree_isSubtype : ∀ sub sup : Ty, s.isSubtype sub sup = s'.isSubtype sub sup := by
  intro sub
  induction sub with
  | named n => intro sup; cases sup <;> simp only [Schema.isSubtype, agree_namedSubtypeCheck h]
  | list t ih => intro sup; cases sup <;> simp only [Schema.isSubtype, ih]
  | nonNull t ih => intro sup; cases sup <;> simp only [Schema.isSubtype, ih]

theorem agree_resolve : s.resolve = s'.resolve := by
  funext t; unfold Schema.resolve; rw [h.tbn]

theorem agree_objectFieldType : objectFieldType s = objectFieldType s' := by
  funext t k; unfold objectFieldType; rw [agree_resolve h]

theorem agree_rootTypeName : rootTypeName s = rootTypeName s' := by
  funext k
  cases k <;> simp only [rootTypeName, agree_queryType h, agree_mutationType h, agree_subscriptionType h, h.tbn]

theorem agree_isLeafName : s.isLeafName = s'.isLeafName := by
  funext n; unfold Schema.isLeafName; rw [h.tbn]

theorem agree_withType : Snap.withType s = Snap.withType s' := by
  funext t e; unfold Snap.withType; rw [agree_resolve h]

theorem agree_withInput : Snap.withInput s = Snap.withInput s' := by
  funext t e; unfold Snap.withInput; rw [agree_resolve h]

theorem agree_walkValue_values_objFields :
    (∀ (v : Value) (e : Snap), walkValue s e v = walkValue s' e v) ∧
    (∀ (vs : List Value) (e : Snap), walkValues s e vs = walkValues s' e vs) ∧
    ∀ (fs : List (Name × Value)) (e : Snap), walkObjFields s e fs = walkObjFields s' e fs := by
  refine values_induction
    (fun _ _ => rfl) (fun _ _ => rfl) (fun _ _ => rfl) (fun _ _ => rfl) (fun _ _ => rfl) (fun _ => rfl) (fun _ _ => rfl)
    ?_ ?_ (fun _ => rfl) ?_ (fun _ => rfl) ?_
  · intro vs ih e; simp only [walkValue, agree_withInput h, ih]
  · intro fs ih e; simp only [walkValue, ih]
  · intro v vs ih1 ih2 e; simp only [walkValues, ih1, ih2]
  · intro k v fs ih1 ih2 e; simp only [walkObjFields, agree_withInput h, agree_objectFieldType h, ih1, ih2]

theorem agree_walkValue : ∀ (v : Value) (e : Snap), walkValue s e v = walkValue s' e v :=
  (agree_walkValue_values_objFields h).1
theorem agree_walkValues : ∀ (vs : List Value) (e : Snap), walkValues s e vs = walkValues s' e vs :=
  (agree_walkValue_values_objFields h).2.1
theorem agree_walkObjFields : ∀ (fs : List (Name × Value)) (e : Snap), walkObjFields s e fs = walkObjFields s' e fs :=
  (agree_walkValue_values_objFields h).2.2

theorem agree_walkArguments (defs : Option (List InputValueDef)) : ∀ (as : List Arg) (e : Snap),
    walkArguments s defs e as = walkArguments s' defs e as
  | [], _ => rfl
  | a :: as, e => by simp only [walkArguments, agree_withInput h, agree_walkValue h, agree_walkArguments defs as]

theorem agree_walkDirectives : ∀ (ds : List Directive) (e : Snap), walkDirectives s e ds = walkDirectives s' e ds
  | [], _ => rfl
  | d :: ds, e => by simp only [walkDirectives, h.dbn, agree_walkArguments h, agree_walkDirectives ds]

theorem agree_walkVarDefs : ∀ (vs : List VarDef) (e : Snap), walkVarDefs s e vs = walkVarDefs s' e vs
  | [], _ => rfl
  | v :: vs, e => by simp only [walkVarDefs, agree_withInput h, agree_walkValue h, agree_walkVarDefs vs]

theorem agree_walkSelection_selections :
    (∀ (x : Selection) (e : Snap), walkSelection s e x = walkSelection s' e x) ∧
    ∀ (xs : List Selection) (e : Snap), walkSelections s e xs = walkSelections s' e xs := by
  refine sels_induction ?_ ?_ ?_ (fun _ => rfl) ?_
  · intro pos alias name args dirs sel ih e
    simp only [walkSelection, agree_withType h, agree_walkArguments h, agree_walkDirectives h, ih]
  · intro pos name dirs e; simp only [walkSelection, agree_walkDirectives h]
  · intro pos tc dirs sel ih e; simp only [walkSelection, agree_withType h, agree_walkDirectives h, ih]
  · intro x xs ih1 ih2 e; simp only [walkSelections, ih1, ih2]

theorem agree_walkSelection : ∀ (x : Selection) (e : Snap), walkSelection s e x = walkSelection s' e x :=
  (agree_walkSelection_selections h).1
theorem agree_walkSelections : ∀ (xs : List Selection) (e : Snap), walkSelections s e xs = walkSelections s' e xs :=
  (agree_walkSelection_selections h).2

theorem agree_walkDefinition (e : Snap) (x : Definition) : walkDefinition s e x = walkDefinition s' e x := by
  cases x with
  | frag f =>
    simp only [walkDefinition, walkSelectionSet, agree_withType h, agree_walkDirectives h]
    have : (fun e' => walkSelections s e' f.sel) = (fun e' => walkSelections s' e' f.sel) := by
      funext e'; exact agree_walkSelections h f.sel e'
    rw [this]
  | op o =>
    simp only [walkDefinition, walkSelectionSet, agree_rootTypeName h, agree_withType h, agree_walkDirectives h, agree_walkVarDefs h]
    have : (fun e' => walkSelections s e' o.sel) = (fun e' => walkSelections s' e' o.sel) := by
      funext e'; exact agree_walkSelections h o.sel e'
    rw [this]

theorem agree_walkDefinitions (e : Snap) : ∀ ds : List Definition, walkDefinitions s e ds = walkDefinitions s' e ds
  | [] => rfl
  | x :: ds => by simp only [walkDefinitions, agree_walkDefinition h, agree_walkDefinitions e ds]

/-- **the same callbacks, with the same context answers** -/
theorem agree_walkOf (d : Document) : walkOf s d = walkOf s' d := by
  simp only [walkOf, walkDocument, agree_walkDefinitions h]

theorem agree_conditionMatches : conditionMatches s = conditionMatches s' := by
  funext tc parent; unfold conditionMatches; rw [h.tbn]

theorem agree_collectSel_sels (parent : TypeDef) (expand : Name → CState → CState) :
    (∀ (x : Selection) (st : CState), collectSel s parent expand x st = collectSel s' parent expand x st) ∧
    ∀ (xs : List Selection) (st : CState), collectSels s parent expand xs st = collectSels s' parent expand xs st := by
  refine sels_induction (fun _ _ _ _ _ _ _ _ => rfl) (fun _ _ _ _ => rfl) ?_ (fun _ => rfl) ?_
  · intro _ tc _ sel ih st; simp only [collectSel, agree_conditionMatches h, ih]
  · intro x xs ih1 ih2 st; simp only [collectSels, ih1, ih2]

theorem agree_collectSel (parent : TypeDef) (expand : Name → CState → CState) : ∀ (x : Selection) (st : CState),
    collectSel s parent expand x st = collectSel s' parent expand x st :=
  (agree_collectSel_sels h parent expand).1
theorem agree_collectSels (parent : TypeDef) (expand : Name → CState → CState) : ∀ (xs : List Selection) (st : CState),
    collectSels s parent expand xs st = collectSels s' parent expand xs st :=
  (agree_collectSel_sels h parent expand).2

theorem agree_collectN (d : Document) (parent : TypeDef) : ∀ (n : Nat) (sel : List Selection) (st : CState),
    collectN s d parent n sel st = collectN s' d parent n sel st
  | 0, _, _ => rfl
  | n + 1, sel, st => by
      simp only [collectN, agree_conditionMatches h]
      rw [agree_collectSels h parent _ sel st]
      congr 1
      funext name st'
      cases d.fragByName name with
      | none => rfl
      | some frag => simp only [agree_collectN d parent n]

theorem agree_collectFields : collectFields s = collectFields s' := by
  funext d parent sel; unfold collectFields; rw [agree_collectN h]

theorem agree_inlineParent : inlineParent s = inlineParent s' := by
  funext tc parent; unfold inlineParent; rw [h.tbn]

theorem agree_mergeCollectSel_sels :
    (∀ (x : Selection) (parent : Option TypeDef) (acc : FieldMap × List Name),
      mergeCollectSel s parent x acc = mergeCollectSel s' parent x acc) ∧
    ∀ (xs : List Selection) (parent : Option TypeDef) (acc : FieldMap × List Name),
      mergeCollectSels s parent xs acc = mergeCollectSels s' parent xs acc := by
  refine sels_induction (fun _ _ _ _ _ _ _ _ _ => rfl) (fun _ _ _ _ _ => rfl) ?_ (fun _ _ => rfl) ?_
  · intro _ tc _ sel ih parent acc; simp only [mergeCollectSel, agree_inlineParent h, ih]
  · intro x xs ih1 ih2 parent acc; simp only [mergeCollectSels, ih1, ih2]

theorem agree_mergeCollectSel (parent : Option TypeDef) : ∀ (x : Selection) (acc : FieldMap × List Name),
    mergeCollectSel s parent x acc = mergeCollectSel s' parent x acc :=
  fun x acc => (agree_mergeCollectSel_sels h).1 x parent acc
theorem agree_mergeCollectSels (parent : Option TypeDef) : ∀ (xs : List Selection) (acc : FieldMap × List Name),
    mergeCollectSels s parent xs acc = mergeCollectSels s' parent xs acc :=
  fun xs acc => (agree_mergeCollectSel_sels h).2 xs parent acc

theorem agree_fafn : fieldsAndFragmentNames s = fieldsAndFragmentNames s' := by
  funext parent sel; unfold fieldsAndFragmentNames; rw [agree_mergeCollectSels h]

theorem agree_refFafn : referencedFieldsAndFragmentNames s = referencedFieldsAndFragmentNames s' := by
  funext f; unfold referencedFieldsAndFragmentNames; rw [agree_fafn h, h.tbn]

theorem agree_isTypeConflict : ∀ a b : Ty, isTypeConflict s a b = isTypeConflict s' a b := by
  intro a
  induction a with
  | named n => intro b; cases b <;> simp only [isTypeConflict, agree_isLeafName h]
  | list t ih => intro b; cases b <;> simp only [isTypeConflict, ih]
  | nonNull t ih => intro b; cases b <;> simp only [isTypeConflict, ih]

theorem agree_typeConflictOf : typeConflictOf s = typeConflictOf s' := by
  funext a b
  simp only [typeConflictOf]
  cases a.fdef <;> cases b.fdef <;> simp [agree_isTypeConflict h]

structure MergeAgreeAt (s s' : Schema) (d : Document) (n : Nat) : Prop where
  fc : findConflict s d n = findConflict s' d n
  cb : conflictsBetween s d n = conflictsBetween s' d n
  bs : betweenSubSelectionSets s d n = betweenSubSelectionSets s' d n
  ff : fieldsAndFragment s d n = fieldsAndFragment s' d n
  bf : betweenFragments s d n = betweenFragments s' d n

theorem mergeAgree (d : Document) : ∀ n, MergeAgreeAt s s' d n := by
  intro n
  induction n with
  | zero =>
    constructor
    · funext key a b me st; unfold findConflict; rfl
    · funext me fm1 fm2 st; unfold conflictsBetween; rfl
    · funext me pn1 sel1 pn2 sel2 st; unfold betweenSubSelectionSets; rfl
    · funext fm nm me st; unfold fieldsAndFragment; rfl
    · funext n1 n2 me st; unfold betweenFragments; rfl
  | succ n ih =>
    constructor
    · funext key a b me st; unfold findConflict; rw [agree_typeConflictOf h, ih.bs]
    · funext me fm1 fm2 st; unfold conflictsBetween; rw [ih.fc]
    · funext me pn1 sel1 pn2 sel2 st; unfold betweenSubSelectionSets; rw [agree_fafn h, h.tbn, ih.cb, ih.ff, ih.bf]
    · funext fm nm me st; unfold fieldsAndFragment; rw [agree_refFafn h, ih.cb, ih.ff]
    · funext n1 n2 me st; unfold betweenFragments; rw [agree_refFafn h, ih.cb, ih.bf]

theorem agree_conflictsWithin (d : Document) (fuel : Nat) : conflictsWithin s d fuel = conflictsWithin s' d fuel := by
  funext fm st; unfold conflictsWithin; rw [(mergeAgree h d fuel).fc]

theorem agree_loop (d : Document) (fuel : Nat) (c : FieldMap × List Name) : ∀ (ns : List Name) (acc : MRes),
    conflictsWithinSelectionSet.loop s d fuel c ns acc = conflictsWithinSelectionSet.loop s' d fuel c ns acc
  | [], _ => rfl
  | f1 :: rest, acc => by
      simp only [conflictsWithinSelectionSet.loop, (mergeAgree h d fuel).ff, (mergeAgree h d fuel).bf, agree_loop d fuel c rest]

theorem agree_conflictsWithinSelectionSet : conflictsWithinSelectionSet s = conflictsWithinSelectionSet s' := by
  funext d fuel parent sel st
  simp only [conflictsWithinSelectionSet, agree_fafn h, agree_conflictsWithin h, agree_loop h]

theorem agree_dirSlot : dirSlot s = dirSlot s' := by
  funext dir; unfold dirSlot; rw [h.dbn]

theorem agree_duplicateDirectiveErrors : ∀ (ds : List Directive) (seen : List Name),
    duplicateDirectiveErrors s ds seen = duplicateDirectiveErrors s' ds seen
  | [], _ => rfl
  | dir :: rest, seen => by
      simp only [duplicateDirectiveErrors, h.dmg, agree_duplicateDirectiveErrors rest]

theorem agree_udCheck : udCheck s = udCheck s' := by
  funext e
  simp only [udCheck]
  split <;> simp only [agree_duplicateDirectiveErrors h]

theorem agree_unknownTypeErr : unknownTypeErr s = unknownTypeErr s' := by
  funext n p; unfold unknownTypeErr; rw [h.tbn]

theorem agree_validateValue : validateValue s = validateValue s' := by
  funext sn raw; unfold validateValue; rw [h.tbn]

theorem agree_validateCompositeValue : validateCompositeValue s = validateCompositeValue s' := by
  funext sn raw; unfold validateCompositeValue; rw [h.tbn]

theorem agree_vipCheck : vipCheck s = vipCheck s' := by
  funext defs u; simp only [vipCheck, agree_isSubtype h]

theorem agree_vipReport : vipReport s = vipReport s' := by
  funext st; unfold vipReport; rw [agree_vipCheck h]

/-- each of the 24 rules reacts to a callback, and reports at the end, in the same way: thirteen
    mention the schema, each through functions shown congruent above -/
theorem agree_rule (r : RuleId) : (ruleOf r).on s = (ruleOf r).on s' ∧ (ruleOf r).finish s = (ruleOf r).finish s' := by
  cases r
  case singleFieldSubscriptions => exact ⟨stateless_congr (by rw [agree_subscriptionType h, agree_collectFields h]), rfl⟩
  case knownTypeNames => exact ⟨stateless_congr (by rw [agree_unknownTypeErr h]), rfl⟩
  case fragmentsOnCompositeTypes => exact ⟨stateless_congr (by rw [h.tbn]), rfl⟩
  case variablesAreInputTypes => exact ⟨stateless_congr (by rw [h.tbn]), rfl⟩
  case fieldsOnCorrectType => exact ⟨stateless_congr (by rw [h.sd]), rfl⟩
  case possibleFragmentSpreads => exact ⟨stateless_congr (by rw [h.tbn, h.ovl]), rfl⟩
  case providedRequiredArguments => exact ⟨stateless_congr (by rw [h.dmg]), rfl⟩
  case valuesOfCorrectType => exact ⟨stateless_congr (by rw [agree_validateValue h, agree_validateCompositeValue h]), rfl⟩
  case uniqueDirectivesPerLocation => exact ⟨stateless_congr (by rw [agree_udCheck h]), rfl⟩
  case overlappingFieldsCanBeMerged =>
    refine ⟨?_, rfl⟩
    dsimp only [ruleOf, overlappingFieldsCanBeMerged]
    rw [agree_conflictsWithinSelectionSet h]
  case knownArgumentNames =>
    refine ⟨?_, rfl⟩
    dsimp only [ruleOf, knownArgumentNames]
    rw [agree_dirSlot h]
  case knownDirectives =>
    refine ⟨?_, rfl⟩
    dsimp only [ruleOf, knownDirectives]
    rw [h.dmg]
  case variablesInAllowedPosition =>
    refine ⟨?_, rfl⟩
    dsimp only [ruleOf, variablesInAllowedPosition, collRule]
    rw [agree_vipReport h]
  all_goals exact ⟨rfl, rfl⟩

/-- **every rule reports the same errors**, in the same order -/
theorem agree_errsOf (r : RuleId) (d : Document) : errsOf r s d = errsOf r s' d := by
  obtain ⟨h1, h2⟩ := agree_rule h r
  have hs : (ruleOf r).step s d = (ruleOf r).step s' d := by
    funext acc e; simp only [Rule.step, h1]
  simp only [errsOf, Rule.runOn, agree_walkOf h, hs, h2]

/-- **validation returns the same result**: the same errors in the same order, for every plan
    (the schema has a query root type: otherwise `validate` panics, for both) -/
theorem agree_validate (hq : s.queryType.isSome = true) (d : Document) (plan : List RuleId) :
    validate s d plan = validate s' d plan := by
  have hq' : s'.queryType.isSome = true := by rw [← agree_queryType h]; exact hq
  have he : (fun r => errsOf r s d) = fun r => errsOf r s' d := funext fun r => agree_errsOf h r d
  rw [C03.no_panic s d hq plan, C03.no_panic s' d hq' plan, he]

end

theorem perm_of_cons_append {α β : Type} {g : List α → List β} {k : α → List β} (hnil : g [] = [])
    (hcons : ∀ x l, g (x :: l) = k x ++ g l) {l l' : List α} (h : l.Perm l') : (g l).Perm (g l') := by
  have hg : ∀ l, g l = l.flatMap k := by
    intro l
    induction l with
    | nil => exact hnil
    | cons x l ih => rw [hcons, ih, List.flatMap_cons]
  rw [hg, hg]
  exact h.flatMap_right k

theorem perm_types {s s' : Schema} (h : s.Perm s') : s.types.Perm s'.types :=
  perm_of_cons_append (k := fun | .type t => [t] | _ => []) rfl (fun x _ => by cases x <;> rfl) h

theorem perm_directives {s s' : Schema} (h : s.Perm s') : s.directives.Perm s'.directives :=
  perm_of_cons_append (k := fun | .directive d => [d] | _ => []) rfl (fun x _ => by cases x <;> rfl) h

/-- the `schema { … }` blocks of a schema document -/
def Schema.schemaBlocks : Schema → List SchemaDef
  | [] => []
  | .schema d :: rest => d :: Schema.schemaBlocks rest
  | _ :: rest => Schema.schemaBlocks rest

theorem perm_schemaBlocks {s s' : Schema} (h : s.Perm s') : s.schemaBlocks.Perm s'.schemaBlocks :=
  perm_of_cons_append (k := fun | .schema d => [d] | _ => []) rfl (fun x _ => by cases x <;> rfl) h

theorem explicitSchemaDef_eq_head (s : Schema) : s.explicitSchemaDef = s.schemaBlocks.head? := by
  induction s with
  | nil => rfl
  | cons x rest ih => cases x <;> simp [Schema.explicitSchemaDef, Schema.schemaBlocks, ih]

theorem eq_of_perm_of_length_le_one {α : Type} {l l' : List α} (h : l.Perm l') (h1 : l.length ≤ 1) : l = l' := by
  cases l with
  | nil => exact (List.nil_perm.1 h).symm
  | cons a t =>
    cases t with
    | nil => exact List.singleton_perm.1 h
    | cons _ _ => exact absurd (Nat.le_of_succ_le_succ h1) (Nat.not_succ_le_zero _)

theorem find?_perm_of_nodup {α : Type} (key : α → Name) {l l' : List α} (hp : l.Perm l') (hn : (l.map key).Nodup) (n : Name) :
    l.find? (fun x => key x == n) = l'.find? (fun x => key x == n) := by
  cases h : l.find? (fun x => key x == n) with
  | none =>
    rw [List.find?_eq_none] at h
    exact (List.find?_eq_none.2 fun x hx => h x (hp.mem_iff.2 hx)).symm
  | some a =>
    have hk : (key a == n) = true := List.find?_some (p := fun x => key x == n) h
    rw [← beq_iff_eq.1 hk]
    exact (find?_key_of_nodup key ((hp.map key).nodup_iff.1 hn) (hp.mem_iff.1 (List.mem_of_find?_eq_some h))).symm

/-- a schema whose type names and directive names are unique and which has at most one
    `schema { … }` block -/
structure SchemaUniq (s : Schema) : Prop where
  typeNames : s.typeNames.Nodup
  directiveNames : (s.directives.map (·.name)).Nodup
  oneBlock : s.schemaBlocks.length ≤ 1

theorem SchemaUniq.perm {s s' : Schema} (hu : SchemaUniq s) (h : s.Perm s') : SchemaUniq s' where
  typeNames := ((perm_types h).map _).nodup_iff.1 hu.typeNames
  directiveNames := ((perm_directives h).map _).nodup_iff.1 hu.directiveNames
  oneBlock := by rw [← (perm_schemaBlocks h).length_eq]; exact hu.oneBlock

/-- **permuting the definitions changes no lookup** -/
theorem agree_of_perm {s s' : Schema} (h : s.Perm s') (hu : SchemaUniq s) : SchemaAgree s s' := by
  have hu' := hu.perm h
  have htbn : s.typeByName = s'.typeByName := by
    funext n
    rw [typeByName_eq_types_find, typeByName_eq_types_find]
    exact find?_perm_of_nodup (fun t : TypeDef => t.name) (perm_types h) hu.typeNames n
  have hdbn : s.directiveByName = s'.directiveByName := by
    funext n
    rw [directiveByName_eq_find, directiveByName_eq_find]
    exact find?_perm_of_nodup (fun t : DirectiveDef => t.name) (perm_directives h) hu.directiveNames n
  refine ⟨htbn, hdbn, ?_, ?_, ?_⟩
  · funext n
    rw [directiveMapGet_eq_directiveByName s hu.directiveNames, directiveMapGet_eq_directiveByName s' hu'.directiveNames, hdbn]
  · -- the schema definition: the only block, or the default one
    unfold Schema.schemaDefinition
    rw [explicitSchemaDef_eq_head, explicitSchemaDef_eq_head, eq_of_perm_of_length_le_one (perm_schemaBlocks h) hu.oneBlock]
  · -- the overlap test: possible types are looked up by name or counted over the type list
    funext t1 t2
    simp only [doTypesOverlap]
    have hpt : ∀ (f : TypeDef → Bool), ((t1.possibleTypes s).filter f).length = ((t1.possibleTypes s').filter f).length := by
      intro f
      cases t1 with
      | interface n is fs =>
        simp only [TypeDef.possibleTypes, typeMapEntries_of_nodup hu.typeNames, typeMapEntries_of_nodup hu'.typeNames]
        exact (((perm_types h).filter _).filter _).length_eq
      | union n ms => simp only [TypeDef.possibleTypes, htbn]
      | scalar _ | object _ _ _ | enum _ _ | inputObject _ _ => simp [TypeDef.possibleTypes]
    rw [hpt]

end Gql
