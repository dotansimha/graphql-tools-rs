/-
  Lemmas/DefTrace.lean — the walk of a document is the concatenation of the walks of its
  definitions (each from the empty environment), between the two document callbacks; the walk of a
  definition is its own enter / leave around callbacks below definition level.
-/
import GqlVerif.Lemmas.TraverseMem
namespace Gql

/-- the callbacks of one definition -/
def defTrace (s : Schema) (x : Definition) : Trace := (walkDefinition s Snap.empty x).getD []

theorem walkDefinitions_flatMap (s : Schema) (e : Snap) :
    ∀ (ds : List Definition) (t : Trace), walkDefinitions s e ds = some t →
      t = ds.flatMap (fun x => (walkDefinition s e x).getD []) ∧ ∀ x ∈ ds, (walkDefinition s e x).isSome = true
  | [], t, h => by simp [walkDefinitions] at h; subst h; simp
  | x :: ds, t, h => by
      obtain ⟨a, b, h1, h2, rfl⟩ := walkDefinitions_cons_eq_some.1 h
      obtain ⟨hb, hall⟩ := walkDefinitions_flatMap s e ds b h2
      refine ⟨by simp only [List.flatMap_cons, h1, Option.getD_some, ← hb], ?_⟩
      intro y hy
      rcases List.mem_cons.1 hy with rfl | hy
      · simp only [h1, Option.isSome_some]
      · exact hall y hy

theorem walkOf_defs (s : Schema) (d : Document) (hq : s.queryType.isSome = true) :
    walkOf s d = (.enter (.document d), Snap.empty) :: d.flatMap (defTrace s) ++ [(.leave (.document d), Snap.empty)]
      ∧ ∀ x ∈ d, (walkDefinition s Snap.empty x).isSome = true := by
  obtain ⟨_, t, _, ht, _⟩ := walkDocument_of_queryType s d hq
  unfold walkOf
  rw [ht]
  simp only [walkDocument, Option.map_eq_some_iff] at ht
  obtain ⟨t', ht', rfl⟩ := ht
  obtain ⟨h1, h2⟩ := walkDefinitions_flatMap s Snap.empty d t' ht'
  refine ⟨?_, h2⟩
  simp only [Option.getD_some, h1]
  rfl

theorem defTrace_shape (s : Schema) (x : Definition) (h : (walkDefinition s Snap.empty x).isSome = true) :
    ∃ (e1 : Snap) (body : Trace), defTrace s x = (defEnter x, e1) :: body ++ [(defLeave x, e1)] ∧
      body.map Prod.fst = traverseBody x := by
  obtain ⟨t, ht⟩ := Option.isSome_iff_exists.1 h
  unfold defTrace
  rw [ht]
  cases x with
  | frag f =>
    simp only [walkDefinition, Option.some.injEq] at ht
    subst ht
    refine ⟨Snap.withType s (some (.named f.tc)) Snap.empty,
      walkDirectives s (Snap.withType s (some (.named f.tc)) Snap.empty) f.dirs
        ++ walkSelectionSet s (Snap.withType s (some (.named f.tc)) Snap.empty) f.sel, ?_, ?_⟩
    · simp [defEnter, defLeave, List.append_assoc]
    · simp [traverseBody, walkDirectives_events, walkSelectionSet_events]
  | op o =>
    simp only [walkDefinition, Option.map_eq_some_iff] at ht
    obtain ⟨tn, _, rfl⟩ := ht
    refine ⟨Snap.withType s (tn.map .named) Snap.empty,
      walkDirectives s (Snap.withType s (tn.map .named) Snap.empty) o.dirs
        ++ walkVarDefs s (Snap.withType s (tn.map .named) Snap.empty) o.vars
        ++ walkSelectionSet s (Snap.withType s (tn.map .named) Snap.empty) o.sel, ?_, ?_⟩
    · simp [defEnter, defLeave, List.append_assoc]
    · simp [traverseBody, walkDirectives_events, walkVarDefs_events, walkSelectionSet_events]

end Gql
