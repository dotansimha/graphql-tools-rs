/-
  Lemmas/SpreadFuel.lean — the spread fuel of the executable spec is enough on documents whose
  fragment spreads form no cycle: following more than `#fragments + 1` nested spreads adds nothing
  to the fields a selection set collects (`specFields_stable`).  Pigeonhole on the names of the
  defined fragments.
-/
import GqlVerif.Lemmas.MergeRel
import GqlVerif.Lemmas.FragGraph
namespace Gql
open Gql.Spec

theorem exists_succ_of_le {b : Nat} : ∀ {n : Nat}, b + 1 ≤ n → ∃ n', n = n' + 1 ∧ b ≤ n'
  | n' + 1, h => ⟨n', rfl, Nat.le_of_succ_le_succ h⟩

theorem specFieldsSelWith_congr (s : Schema) (sp1 sp2 : Name → List AstAndDef) : ∀ (x : Selection) (parent : Option TypeDef),
    (∀ nm ∈ topSpreadsSel x, sp1 nm = sp2 nm) → specFieldsSelWith s sp1 parent x = specFieldsSelWith s sp2 parent x :=
  (specFields_congr s sp1 sp2).1

theorem topSpreadsSel_sub : ∀ (x : Selection) (nm : Name), nm ∈ topSpreadsSel x → nm ∈ (recursiveSpreadsSel x).map (·.name) :=
  fun x nm => (topSpreads_sub nm).1 x

/-- the successor relation the expansion of spreads follows -/
def expandSucc (d : Document) (nm : Name) : List Name :=
  match d.fragByName nm with
  | some fr => topSpreads fr.sel
  | none => []

/-- every chain of `succ` edges from `nm` has at most `k` edges -/
def ChainBound (succ : Name → List Name) : Nat → Name → Prop
  | 0, nm => succ nm = []
  | k + 1, nm => ∀ nm' ∈ succ nm, ChainBound succ k nm'

theorem ChainBound.mono {succ : Name → List Name} : ∀ {k : Nat} {nm : Name}, ChainBound succ k nm → ChainBound succ (k + 1) nm
  | 0, nm, h => by
      intro nm' hnm'
      simp only [ChainBound] at h
      rw [h] at hnm'; cases hnm'
  | k + 1, nm, h => fun nm' hnm' => ChainBound.mono (h nm' hnm')

theorem ChainBound.succ {succ : Name → List Name} : ∀ {k : Nat} {a b : Name}, ChainBound succ k a → b ∈ succ a →
    ∃ k', k = k' + 1 ∧ ChainBound succ k' b
  | 0, a, b, h, hb => by rw [show succ a = [] from h] at hb; cases hb
  | k + 1, _, b, h, hb => ⟨k, rfl, h b hb⟩

/-- a quantity computed with fuel, whose value at a name depends on the values at the successors with one unit
    less: with a bound on the chains, more fuel changes nothing -/
theorem iter_stable {β : Type} (succ : Name → List Name) (f : Nat → Name → β)
    (hstep : ∀ k m nm, (∀ nm' ∈ succ nm, f k nm' = f m nm') → f (k + 1) nm = f (m + 1) nm) :
    ∀ (k : Nat) (nm : Name), ChainBound succ k nm → ∀ m, k + 1 ≤ m → f m nm = f (k + 1) nm
  | k, nm, hb, m + 1, hm => by
      refine hstep m k nm fun nm' hnm' => ?_
      obtain ⟨k', rfl, hb'⟩ := hb.succ hnm'
      exact iter_stable succ f hstep k' nm' hb' m (Nat.le_of_succ_le_succ hm)

theorem spreadFields_stable (s : Schema) (d : Document) : ∀ (k : Nat) (nm : Name), ChainBound (expandSucc d) k nm →
    ∀ m, k + 1 ≤ m → spreadFields s d m nm = spreadFields s d (k + 1) nm := by
  refine iter_stable (expandSucc d) (spreadFields s d) fun k m nm h => ?_
  cases hf : d.fragByName nm with
  | none => rw [spreadFields_succ_none s d k nm hf, spreadFields_succ_none s d m nm hf]
  | some fr =>
    rw [spreadFields_succ_some s d k nm fr hf, spreadFields_succ_some s d m nm fr hf]
    exact (specFields_congr s _ _).2 fr.sel _ fun nm' hnm' => h nm' (by rw [expandSucc, hf]; exact hnm')

/-- a successor function that follows spreads of defined fragments only -/
structure SpreadSucc (d : Document) (succ : Name → List Name) : Prop where
  sub : ∀ a b, b ∈ succ a → b ∈ spreadsOf d a
  defined : ∀ a, succ a ≠ [] → a ∈ d.fragments.map (·.name)

/-- a chain of `succ` edges: `a` followed by `rest` -/
def IsChain (succ : Name → List Name) : Name → List Name → Prop
  | _, [] => True
  | a, b :: rest => b ∈ succ a ∧ IsChain succ b rest

theorem reach_of_chain (d : Document) (succ : Name → List Name) (hs : SpreadSucc d succ) : ∀ (a : Name) (rest : List Name),
    IsChain succ a rest → ∀ c ∈ rest, Reachable (spreadsOf d) a c
  | _, [], _, c, hc => by cases hc
  | a, b :: rest, h, c, hc => by
      obtain ⟨h1, h2⟩ := h
      have hab : b ∈ spreadsOf d a := hs.sub a b h1
      rcases List.mem_cons.1 hc with rfl | hc
      · exact .step hab (.refl _)
      · exact .step hab (reach_of_chain d succ hs b rest h2 c hc)

theorem chain_nodup (d : Document) (succ : Name → List Name) (hs : SpreadSucc d succ) (hac : ¬ FragmentCycle d) :
    ∀ (a : Name) (rest : List Name), IsChain succ a rest → (a :: rest).Nodup
  | a, [], _ => by simp
  | a, b :: rest, h => by
      obtain ⟨h1, h2⟩ := h
      have ih := chain_nodup d succ hs hac b rest h2
      rw [List.nodup_cons]
      refine ⟨?_, ih⟩
      intro hmem
      have hab : b ∈ spreadsOf d a := hs.sub a b h1
      apply hac
      refine ⟨a, b, hab, ?_⟩
      rcases List.mem_cons.1 hmem with rfl | hmem
      · exact .refl _
      · exact reach_of_chain d succ hs b rest h2 a hmem

theorem chain_defined (d : Document) (succ : Name → List Name) (hs : SpreadSucc d succ) : ∀ (a : Name) (rest : List Name),
    IsChain succ a rest → rest ≠ [] → ∀ c ∈ (a :: rest).dropLast, c ∈ d.fragments.map (·.name)
  | a, [], _, hne, _, _ => absurd rfl hne
  | a, [b], h, _, c, hc => by
      simp only [List.dropLast, List.mem_singleton] at hc
      subst hc
      exact hs.defined c (fun e => by have h1 := h.1; rw [e] at h1; cases h1)
  | a, b :: b' :: rest, h, _, c, hc => by
      obtain ⟨h1, h2⟩ := h
      simp only [List.dropLast, List.mem_cons] at hc
      rcases hc with rfl | hc
      · exact hs.defined c (fun e => by rw [e] at h1; cases h1)
      · exact chain_defined d succ hs b (b' :: rest) h2 (by simp) c (by simpa [List.dropLast] using hc)

theorem chain_short (d : Document) (succ : Name → List Name) (hs : SpreadSucc d succ) (hac : ¬ FragmentCycle d)
    (a : Name) (rest : List Name) (h : IsChain succ a rest) : rest.length ≤ d.fragments.length := by
  by_cases hne : rest = []
  · subst hne; simp
  · have hnd := chain_nodup d succ hs hac a rest h
    have hsub := chain_defined d succ hs a rest h hne
    have hnd' : ((a :: rest).dropLast).Nodup := hnd.sublist (List.dropLast_sublist _)
    have := hnd'.length_le_of_subset (fun c hc => hsub c hc)
    simp only [List.length_dropLast, List.length_cons, List.length_map] at this
    omega

theorem chainBound_of_short (succ : Name → List Name) : ∀ (k : Nat) (a : Name),
    (∀ rest, IsChain succ a rest → rest.length ≤ k) → ChainBound succ k a
  | 0, a, h => by
      simp only [ChainBound]
      cases hs : succ a with
      | nil => rfl
      | cons b bs =>
        have := h [b] ⟨by rw [hs]; simp, trivial⟩
        simp at this
  | k + 1, a, h => by
      intro b hb
      apply chainBound_of_short succ k b
      exact fun rest hrest => Nat.le_of_succ_le_succ (h (b :: rest) ⟨hb, hrest⟩)

theorem chainBound_acyclic (d : Document) (succ : Name → List Name) (hs : SpreadSucc d succ) (hac : ¬ FragmentCycle d) (nm : Name) :
    ChainBound succ d.fragments.length nm :=
  chainBound_of_short succ _ nm (fun rest h => chain_short d succ hs hac nm rest h)

theorem spreadSucc_of (d : Document) (succ : Name → List Name) (hnone : ∀ a, d.fragByName a = none → succ a = [])
    (hsome : ∀ a fr, d.fragByName a = some fr → ∀ b ∈ succ a, b ∈ (recursiveSpreads fr.sel).map (·.name)) :
    SpreadSucc d succ where
  sub := by
    intro a b h
    cases hf : d.fragByName a with
    | none => rw [hnone a hf] at h; cases h
    | some fr =>
      obtain ⟨hm, hnm⟩ := fragByName_some_mem d hf
      exact List.mem_flatMap.2 ⟨fr, List.mem_filter.2 ⟨hm, beq_iff_eq.2 hnm⟩, hsome a fr hf b h⟩
  defined := by
    intro a h
    cases hf : d.fragByName a with
    | none => exact absurd (hnone a hf) h
    | some fr =>
      obtain ⟨hm, hnm⟩ := fragByName_some_mem d hf
      exact List.mem_map.2 ⟨fr, hm, hnm⟩

theorem expandSucc_spreadSucc (d : Document) : SpreadSucc d (expandSucc d) :=
  spreadSucc_of d _ (fun a h => by rw [expandSucc, h])
    fun a fr h b hb => (topSpreads_sub b).2 fr.sel (by rw [expandSucc, h] at hb; exact hb)

/-- **the spread fuel of the spec is enough**: on a document without a fragment cycle, following
    more than `#fragments + 1` nested spreads adds nothing -/
theorem specFields_stable (s : Schema) (d : Document) (hac : ¬ FragmentCycle d)
    (parent : Option TypeDef) (sel : List Selection) (m : Nat) (hm : spreadFuelOf d ≤ m) :
    specFields s d m parent sel = specFields s d (spreadFuelOf d) parent sel := by
  unfold specFields
  apply (specFields_congr s _ _).2
  intro nm _
  have hb := chainBound_acyclic d (expandSucc d) (expandSucc_spreadSucc d) hac nm
  unfold spreadFuelOf at hm ⊢
  exact spreadFields_stable s d _ nm hb m hm

end Gql
