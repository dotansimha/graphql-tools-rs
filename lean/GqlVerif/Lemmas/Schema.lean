/-
  Lemmas/Schema.lean — facts about schema lookups used by several property files.
-/
import GqlVerif.Spec.TypeSystem
namespace Gql

theorem mem_types_iff (s : Schema) (t : TypeDef) : t ∈ s.types ↔ SDef.type t ∈ s := by
  induction s with
  | nil => simp [Schema.types]
  | cons d rest ih => cases d <;> simp [Schema.types, ih]

theorem mem_directives_iff (s : Schema) (d : DirectiveDef) : d ∈ s.directives ↔ SDef.directive d ∈ s := by
  induction s with
  | nil => simp [Schema.directives]
  | cons x rest ih => cases x <;> simp [Schema.directives, ih]

theorem typeByName_eq_types_find (s : Schema) (n : Name) : s.typeByName n = s.types.find? (fun t => t.name == n) := by
  induction s with
  | nil => rfl
  | cons x xs ih =>
    cases x with
    | type t =>
      rw [Schema.typeByName, Schema.types, List.find?_cons, ih]
      cases t.name == n <;> rfl
    | schema _ | directive _ | ext => exact ih

theorem directiveByName_eq_find (s : Schema) (n : Name) :
    s.directiveByName n = s.directives.find? (fun d => d.name == n) := by
  induction s with
  | nil => rfl
  | cons x xs ih =>
    cases x with
    | directive d =>
      rw [Schema.directiveByName, Schema.directives, List.find?_cons, ih]
      cases d.name == n <;> rfl
    | schema _ | type _ | ext => exact ih

theorem find?_key_of_nodup {α : Type} (key : α → Name) {l : List α} (hn : (l.map key).Nodup) {a : α} (h : a ∈ l) :
    l.find? (fun x => key x == key a) = some a := by
  induction l with
  | nil => exact absurd h List.not_mem_nil
  | cons x xs ih =>
    rw [List.map_cons, List.nodup_cons] at hn
    rw [List.find?_cons]
    rcases List.mem_cons.1 h with rfl | h
    · rw [beq_self_eq_true]
    · have : (key x == key a) = false := beq_false_of_ne fun hk => hn.1 (hk ▸ List.mem_map_of_mem h)
      rw [this]
      exact ih hn.2 h

theorem typeByName_some {s : Schema} {n : Name} {t : TypeDef} (h : s.typeByName n = some t) :
    SDef.type t ∈ s ∧ t.name = n := by
  rw [typeByName_eq_types_find] at h
  have hk : (t.name == n) = true := List.find?_some (p := fun t : TypeDef => t.name == n) h
  exact ⟨(mem_types_iff s t).1 (List.mem_of_find?_eq_some h), beq_iff_eq.1 hk⟩

theorem typeByName_isSome_iff (s : Schema) (n : Name) :
    (s.typeByName n).isSome = true ↔ ∃ t, SDef.type t ∈ s ∧ t.name = n := by
  simp only [typeByName_eq_types_find, List.find?_isSome, mem_types_iff, beq_iff_eq]

theorem typeByName_of_mem {s : Schema} (hn : s.typeNames.Nodup) {t : TypeDef} (h : SDef.type t ∈ s) :
    s.typeByName t.name = some t :=
  (typeByName_eq_types_find s t.name).trans
    (find?_key_of_nodup (fun t : TypeDef => t.name) (l := s.types) hn ((mem_types_iff s t).2 h))

theorem directiveByName_some {s : Schema} {n : Name} {d : DirectiveDef} (h : s.directiveByName n = some d) :
    SDef.directive d ∈ s ∧ d.name = n := by
  rw [directiveByName_eq_find] at h
  have hk : (d.name == n) = true := List.find?_some (p := fun d : DirectiveDef => d.name == n) h
  exact ⟨(mem_directives_iff s d).1 (List.mem_of_find?_eq_some h), beq_iff_eq.1 hk⟩

theorem directiveByName_isSome_iff (s : Schema) (n : Name) :
    (s.directiveByName n).isSome = true ↔ ∃ d, SDef.directive d ∈ s ∧ d.name = n := by
  simp only [directiveByName_eq_find, List.find?_isSome, mem_directives_iff, beq_iff_eq]

theorem lastWins_of_nodup (ts : List TypeDef) (h : (ts.map (·.name)).Nodup) : lastWins ts = ts := by
  induction ts with
  | nil => rfl
  | cons t rest ih =>
    simp only [List.map_cons, List.nodup_cons] at h
    have hno : rest.any (·.name == t.name) = false := by
      rw [List.any_eq_false]
      intro x hx heq
      exact h.1 (List.mem_map.2 ⟨x, hx, by simpa using heq⟩)
    simp [lastWins, hno, ih h.2]

theorem typeMapEntries_of_nodup {s : Schema} (hn : s.typeNames.Nodup) : s.typeMapEntries = s.types :=
  lastWins_of_nodup _ hn

theorem find_reverse_of_nodup {α : Type} (key : α → Name) (l : List α) (hn : (l.map key).Nodup) (n : Name) :
    l.reverse.find? (fun x => key x == n) = l.find? (fun x => key x == n) := by
  cases h : l.reverse.find? (fun x => key x == n) with
  | none =>
    rw [List.find?_eq_none] at h
    exact (List.find?_eq_none.2 fun x hx => h x (List.mem_reverse.2 hx)).symm
  | some a =>
    have hk : (key a == n) = true := List.find?_some (p := fun x => key x == n) h
    rw [← beq_iff_eq.1 hk]
    exact (find?_key_of_nodup key hn (List.mem_reverse.1 (List.mem_of_find?_eq_some h))).symm

/-- `ctx.directives` (HashMap, last wins) agrees with `directive_by_name` (first match) when
    directive names are unique -/
theorem directiveMapGet_eq_directiveByName (s : Schema) (hn : (s.directives.map (·.name)).Nodup) (n : Name) :
    s.directiveMapGet n = s.directiveByName n := by
  rw [directiveByName_eq_find]
  exact find_reverse_of_nodup (·.name) s.directives hn n

end Gql
