/-
  Lemmas/GraphEvents.lean — the callbacks the fragment-graph rules react to (fragment definition
  enter / leave, fragment spread, end of document), as a function of the document alone.
-/
import GqlVerif.Lemmas.TraverseMem
import GqlVerif.Lemmas.TraverseNodes
namespace Gql

inductive GEv where
  | enterFrag (f : FragDef)
  | leaveFrag
  | spread (sp : SpreadNode)
  | leaveDoc
  deriving Inhabited

def gev : Ev → Option GEv
  | .enter (.fragmentDef f) => some (.enterFrag f)
  | .leave (.fragmentDef _) => some .leaveFrag
  | .enter (.spread sp) => some (.spread sp)
  | .leave (.document _) => some .leaveDoc
  | _ => none

def Node.isGraph : Node → Bool
  | .fragmentDef _ | .spread _ | .document _ => true
  | _ => false

/-- no event of the list concerns the fragment graph -/
def NoGraph (l : List Ev) : Prop := ∀ e ∈ l, e.node.isGraph = false

theorem gev_eq_none {e : Ev} (h : e.node.isGraph = false) : gev e = none := by
  cases e with
  | enter n | leave n =>
    cases n with
    | fragmentDef | spread | document => cases h
    | _ => exact rfl

theorem NoGraph.filterMap {l : List Ev} (h : NoGraph l) : l.filterMap gev = [] :=
  List.filterMap_eq_nil_iff.2 fun e he => gev_eq_none (h e he)

/-- spreads sit at level 3, definitions and the document above -/
theorem Node.isGraph_of_level {n : Node} (h : n.level ≤ 2) : n.isGraph = false := by
  cases n with
  | fragmentDef | spread | document => exact absurd h (of_decide_eq_false rfl)
  | _ => exact rfl

theorem Below.noGraph {l : List Ev} (h : Below 2 l) : NoGraph l :=
  fun e he => Node.isGraph_of_level (h e he)

theorem noGraph_values : ∀ vs, NoGraph (traverseValues vs) := fun vs => ((below_values vs).mono (Nat.zero_le 2)).noGraph
theorem noGraph_objFields : ∀ fs, NoGraph (traverseObjFields fs) := fun fs => ((below_objFields fs).mono (Nat.zero_le 2)).noGraph
theorem noGraph_arguments (as : List Arg) : NoGraph (traverseArguments as) := ((below_arguments as).mono (Nat.le_succ 1)).noGraph
theorem noGraph_directives (ds : List Directive) : NoGraph (traverseDirectives ds) := (below_directives ds).noGraph

theorem noGraph_varDefs (vs : List VarDef) : NoGraph (traverseVarDefs vs) :=
  forall_traverseVarDefs (P := fun e => e.node.isGraph = false)
    (fun n hn =>
      have h : n.isGraph = false :=
        Node.isGraph_of_level (Nat.le_trans (Nat.le_of_eq (eq_of_beq (n.isValue_eq ▸ hn))) (Nat.zero_le 2))
      ⟨h, h⟩)
    (fun _ => ⟨rfl, rfl⟩) vs

theorem gev_sels :
    (∀ x, (traverseSelection x).filterMap gev = (recursiveSpreadsSel x).map GEv.spread) ∧
      ∀ xs, (traverseSelections xs).filterMap gev = (recursiveSpreads xs).map GEv.spread := by
  refine sels_induction ?_ ?_ ?_ ?_ ?_
  · intro pos alias name args dirs sel ih
    simp only [traverseSelection, recursiveSpreadsSel, List.filterMap_cons, List.filterMap_append, gev,
      (noGraph_arguments args).filterMap, (noGraph_directives dirs).filterMap, ih,
      List.filterMap_nil, List.nil_append, List.append_nil]
  · intro pos name dirs
    simp only [traverseSelection, recursiveSpreadsSel, List.filterMap_cons, List.filterMap_append, gev,
      (noGraph_directives dirs).filterMap, List.filterMap_nil, List.map_cons, List.map_nil, List.append_nil]
  · intro pos tc dirs sel ih
    simp only [traverseSelection, recursiveSpreadsSel, List.filterMap_cons, List.filterMap_append, gev,
      (noGraph_directives dirs).filterMap, ih, List.filterMap_nil, List.nil_append, List.append_nil]
  · rfl
  · intro x xs ihx ihxs
    simp only [traverseSelections, recursiveSpreads, List.filterMap_append, ihx, ihxs, List.map_append]

theorem gev_selection : ∀ x, (traverseSelection x).filterMap gev = (recursiveSpreadsSel x).map GEv.spread :=
  gev_sels.1

theorem gev_selectionSet (sel : List Selection) :
    (traverseSelectionSet sel).filterMap gev = (recursiveSpreads sel).map GEv.spread := by
  simp only [traverseSelectionSet, List.filterMap_cons, List.filterMap_append, gev, gev_sels.2,
    List.filterMap_nil, List.append_nil]

def defGEvs : Definition → List GEv
  | .frag f => .enterFrag f :: (recursiveSpreads f.sel).map GEv.spread ++ [.leaveFrag]
  | .op o => (recursiveSpreads o.sel).map GEv.spread

theorem gev_definition : ∀ x, (traverseDefinition x).filterMap gev = defGEvs x
  | .frag f => by
      simp only [traverseDefinition, defGEvs, List.filterMap_cons, List.filterMap_append, gev,
        (noGraph_directives f.dirs).filterMap, gev_selectionSet, List.filterMap_nil]
      rfl
  | .op o => by
      simp only [traverseDefinition, defGEvs, List.filterMap_cons, List.filterMap_append, gev,
        (noGraph_directives o.dirs).filterMap, (noGraph_varDefs o.vars).filterMap, gev_selectionSet,
        List.filterMap_nil, List.nil_append, List.append_nil]

theorem filterMap_traverseDefinitions {β : Type} (π : Ev → Option β) (ds : List Definition) :
    (traverseDefinitions ds).filterMap π = ds.flatMap fun x => (traverseDefinition x).filterMap π := by
  rw [traverseDefinitions_eq_flatMap, List.filterMap_flatMap]

theorem gev_document (d : Document) : (traverseDocument d).filterMap gev = d.flatMap defGEvs ++ [.leaveDoc] := by
  simp only [traverseDocument, List.filterMap_cons, List.filterMap_append, gev, filterMap_traverseDefinitions,
    gev_definition, List.filterMap_nil]

end Gql
