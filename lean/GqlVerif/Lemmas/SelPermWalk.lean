/-
  Lemmas/SelPermWalk.lean — reordering selections and the walk: the selection sets the walk visits
  correspond one to one (same type environment, selections reordered); the fuel of the executable
  spec and the names of operations and fragments are unaffected; unique argument names, read off
  the nodes the walk enters.
-/
import GqlVerif.Lemmas.SelPermEvents
namespace Gql
open Gql.Spec

theorem EvRel.of_enter_selectionSet {sel : List Selection} {ev' : Ev} (h : EvRel (.enter (.selectionSet sel)) ev') :
    ∃ sel', SelsEq sel sel' ∧ ev' = .enter (.selectionSet sel') := by
  cases h with
  | enter hn =>
    cases hn with
    | same => exact ⟨sel, .refl _, rfl⟩
    | selectionSet hs => exact ⟨_, hs, rfl⟩

theorem selset_walk_rel (s : Schema) {xs ys : List Selection} (h : SelsEq xs ys) :
    ∀ (e : Snap) (sel : List Selection) (env : Snap), (Ev.enter (.selectionSet sel), env) ∈ walkSelections s e xs →
      ∃ sel', SelsEq sel sel' ∧ (Ev.enter (.selectionSet sel'), env) ∈ walkSelections s e ys := by
  intro e sel env hm
  obtain ⟨ev', hr, hm'⟩ := (ev_walk_rel s h e).mem hm
  obtain ⟨sel', hs, rfl⟩ := hr.of_enter_selectionSet
  exact ⟨sel', hs, hm'⟩

theorem selset_doc_rel (s : Schema) (hq : s.queryType.isSome = true) {d d' : Document} (hdd : DocRel d d')
    (sel : List Selection) (env : Snap) (hm : (Ev.enter (.selectionSet sel), env) ∈ walkOf s d) :
    ∃ sel', SelsEq sel sel' ∧ (Ev.enter (.selectionSet sel'), env) ∈ walkOf s d' := by
  obtain ⟨ev', hr, hm'⟩ := ev_doc_rel s hq hdd _ env hm
  obtain ⟨sel', hs, rfl⟩ := hr.of_enter_selectionSet
  exact ⟨sel', hs, hm'⟩

theorem selsDepth_rel {a b : List Selection} (h : SelsEq a b) : selsDepth a = selsDepth b := by
  induction h with
  | refl l => rfl
  | swap x y l => simp only [selsDepth]; exact Nat.max_left_comm _ _ _
  | cons x _ ih => simp only [selsDepth, ih]
  | field pos alias name args dirs l _ ih => simp only [selsDepth, selDepth, ih]
  | inline pos tc dirs l _ ih => simp only [selsDepth, selDepth, ih]
  | trans _ _ ih1 ih2 => exact ih1.trans ih2

theorem docDepth_rel {d d' : Document} (h : DocRel d d') : docDepth d = docDepth d' := by
  induction h with
  | refl d => rfl
  | op o l hs => simp only [docDepth, Definition.selections, selsDepth_rel hs]
  | frag f l hs => simp only [docDepth, Definition.selections, selsDepth_rel hs]
  | cons x _ ih => simp only [docDepth, ih]
  | trans _ _ ih1 ih2 => exact ih1.trans ih2

theorem opNames_rel {d d' : Document} (h : DocRel d d') :
    d.operations.map (·.name) = d'.operations.map (·.name) := by
  induction h with
  | refl d => rfl
  | op o l _ => simp only [Document.operations, List.map_cons]
  | frag f l _ => simp only [Document.operations]
  | cons x _ ih => cases x <;> simp only [Document.operations, List.map_cons, ih]
  | trans _ _ ih1 ih2 => exact ih1.trans ih2

theorem fragNames_rel {d d' : Document} (h : DocRel d d') :
    d.fragments.map (·.name) = d'.fragments.map (·.name) := by
  induction h with
  | refl d => rfl
  | op o l _ => simp only [Document.fragments]
  | frag f l _ => simp only [Document.fragments, List.map_cons]
  | cons x _ ih => cases x <;> simp only [Document.fragments, List.map_cons, ih]
  | trans _ _ ih1 ih2 => exact ih1.trans ih2

theorem fragments_length_rel {d d' : Document} (h : DocRel d d') : d.fragments.length = d'.fragments.length := by
  have := congrArg List.length (fragNames_rel h)
  rwa [List.length_map, List.length_map] at this

theorem enter_field_not_mem {l : List Ev} (h : Below 2 l) (f : FieldNode) : Ev.enter (.field f) ∉ l :=
  fun hm => absurd (show 3 ≤ 2 from h _ hm) (by decide)

theorem enter_field_not_mem_varDefs (f : FieldNode) (vs : List VarDef) : Ev.enter (.field f) ∉ traverseVarDefs vs := fun hm =>
  forall_traverseVarDefs (P := (· ≠ .enter (.field f))) (fun n hn => ⟨fun h => (by cases h; cases hn), nofun⟩)
    (fun _ => ⟨nofun, nofun⟩) vs _ hm rfl

theorem aoSels_iff_fields :
    (∀ x, aoSel x ↔ ∀ f, Ev.enter (.field f) ∈ traverseSelection x → (f.args.map (·.1)).Nodup) ∧
    ∀ xs, aoSels xs ↔ ∀ f, Ev.enter (.field f) ∈ traverseSelections xs → (f.args.map (·.1)).Nodup := by
  refine sels_induction ?_ ?_ ?_ ?_ ?_
  · intro pos alias name args dirs sel ih
    have ha := enter_field_not_mem ((below_arguments args).mono (by decide))
    have hd := enter_field_not_mem (below_directives dirs)
    simp only [aoSel, ih, traverseSelection, List.mem_cons, List.mem_append, ha, hd, Ev.enter.injEq, Node.field.injEq,
      reduceCtorEq, List.not_mem_nil, or_false, false_or, forall_eq_or_imp]
  · intro pos name dirs
    have hd := enter_field_not_mem (below_directives dirs)
    simp only [aoSel, traverseSelection, List.mem_cons, List.mem_append, hd, Ev.enter.injEq, reduceCtorEq, List.not_mem_nil,
      or_false, false_imp_iff, implies_true]
  · intro pos tc dirs sel ih
    have hd := enter_field_not_mem (below_directives dirs)
    simp only [aoSel, ih, traverseSelection, List.mem_cons, List.mem_append, hd, Ev.enter.injEq, reduceCtorEq, List.not_mem_nil,
      or_false, false_or]
  · simp only [aoSels, traverseSelections, List.not_mem_nil, false_imp_iff, implies_true]
  · intro x xs ih1 ih2
    simp only [aoSels, ih1, ih2, traverseSelections, List.mem_append, or_imp, forall_and]

theorem enter_field_mem_definition (f : FieldNode) (x : Definition) :
    Ev.enter (.field f) ∈ traverseDefinition x ↔ Ev.enter (.field f) ∈ traverseSelections x.selections := by
  cases x with
  | frag fr =>
    have hd := enter_field_not_mem (below_directives fr.dirs) f
    simp only [traverseDefinition, traverseSelectionSet, Definition.selections, List.mem_cons, List.mem_append, hd, Ev.enter.injEq,
      reduceCtorEq, List.not_mem_nil, or_false, false_or]
  | op o =>
    have hd := enter_field_not_mem (below_directives o.dirs) f
    simp only [traverseDefinition, traverseSelectionSet, Definition.selections, List.mem_cons, List.mem_append, hd,
      enter_field_not_mem_varDefs, Ev.enter.injEq, reduceCtorEq, List.not_mem_nil, or_false, false_or]

theorem argsUniq_iff_aoDoc (s : Schema) (d : Document) (hq : s.queryType.isSome = true) : ArgsUniq s d ↔ AODoc d := by
  have hw : ArgsUniq s d ↔ ∀ f, Ev.enter (.field f) ∈ traverseDocument d → (f.args.map (·.1)).Nodup :=
    ⟨fun h f hf => let ⟨env, hm⟩ := (mem_walkOf_iff s d hq _).2 hf; h f env hm,
      fun h f env hm => h f ((mem_walkOf_iff s d hq _).1 ⟨env, hm⟩)⟩
  simp only [hw, AODoc, aoSels_iff_fields.2, enter_mem_document, reduceCtorEq, false_or, traverseDefinitions_eq_flatMap,
    List.mem_flatMap, enter_field_mem_definition]
  exact ⟨fun h x hx f hf => h f ⟨x, hx, hf⟩, fun h f ⟨x, hx, hf⟩ => h x hx f hf⟩

theorem argsUniq_of_aoDoc (s : Schema) (d : Document) (hq : s.queryType.isSome = true) (hd : AODoc d) : ArgsUniq s d :=
  (argsUniq_iff_aoDoc s d hq).2 hd

theorem hereditary_aoSels : Hereditary aoSels where
  tail h := h.2
  field h := h.1.2
  inline h := h.1

theorem aoSels_of_walk (s : Schema) (d : Document) (hd : AODoc d)
    (sel : List Selection) (env : Snap) (hm : (Ev.enter (.selectionSet sel), env) ∈ walkOf s d) : aoSels sel :=
  (selSets_walkOf hereditary_aoSels d hd sel env hm).2.1

end Gql
