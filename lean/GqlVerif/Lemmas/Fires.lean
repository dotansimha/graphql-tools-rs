/-
  Lemmas/Fires.lean — "rule r fires on (s, d)" and its connection to `validate` and to the
  declarative walk.
-/
import GqlVerif.Lemmas.Visit
import GqlVerif.Lemmas.Rules
import GqlVerif.Thm.C15
namespace Gql

/-- the callbacks with their type environment, as prescribed by the schema (Spec/Walk.lean) -/
def walkOf (s : Schema) (d : Document) : Trace := (walkDocument s Snap.empty d).getD []

/-- what rule `r` reports when run alone -/
def errsOf (r : RuleId) (s : Schema) (d : Document) : List Err := (ruleOf r).runOn s d (walkOf s d)

/-- rule `r`, run alone, reports at least one error -/
def fires (r : RuleId) (s : Schema) (d : Document) : Prop := errsOf r s d ≠ []

instance (r : RuleId) (s : Schema) (d : Document) : Decidable (fires r s d) :=
  decidable_of_iff ((errsOf r s d).isEmpty = false) (by simp [fires, List.isEmpty_eq_false_iff])

theorem walkDocument_of_queryType (s : Schema) (d : Document) (hq : s.queryType.isSome = true) :
    ∃ v t, visitDocument s d = some v ∧ walkDocument s Snap.empty d = some t ∧
      v Stacks.empty = (Stacks.empty, t) := by
  cases hv : visitDocument s d with
  | none =>
    obtain ⟨o, _, _, hnone⟩ := (C15.visit_none_iff s d).1 hv
    rw [hnone] at hq
    cases hq
  | some v =>
    have hl := visitDocument_lexical s d
    rw [hv] at hl
    obtain ⟨t, ht, hst⟩ := hl Stacks.empty
    exact ⟨v, t, rfl, ht, hst⟩

/-- on a schema with a query root object type, `validate` with the one-rule plan returns exactly
    `errsOf` (never panics) -/
theorem validate_single_eq (s : Schema) (d : Document) (r : RuleId) (hq : s.queryType.isSome = true) :
    validate s d [r] = some (errsOf r s d) := by
  obtain ⟨v, t, hv, ht, hst⟩ := walkDocument_of_queryType s d hq
  simp only [validate, validateGrouped, hv, Option.map_some, runPlan, hst, List.flatten_cons,
    List.flatten_nil, List.append_nil, errsOf, walkOf, ht, Option.getD_some]

theorem stateless_fires_iff (check : Schema → Document → Ev × Snap → List Err) (s : Schema)
    (d : Document) (tr : Trace) :
    (Rule.stateless check).runOn s d tr ≠ [] ↔ ∃ e ∈ tr, check s d e ≠ [] := by
  rw [stateless_runOn]
  exact flatMap_ne_nil_iff _ _

end Gql
