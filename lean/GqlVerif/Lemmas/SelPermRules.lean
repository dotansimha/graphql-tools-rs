/-
  Lemmas/SelPermRules.lean — under `DocRel` every operation and every fragment has a counterpart
  that differs from it in its selections only; `DocSim` (Thm/C14.lean) forgets that, and
  'variables in allowed position' needs it.
-/
import GqlVerif.Lemmas.SelPermFinal
namespace Gql
open Gql.Spec

theorem opsRel {d d' : Document} (h : DocRel d d') : ∀ o ∈ d.operations, ∃ sel', SelsEq o.sel sel' ∧ ({ o with sel := sel' } : Operation) ∈ d'.operations := by
  intro o ho
  obtain ⟨_, hy, hr⟩ := h.mem _ ((mem_operations_iff d o).1 ho)
  cases hr with
  | op _ hs => exact ⟨_, hs, (mem_operations_iff d' _).2 hy⟩

theorem fragsRel {d d' : Document} (h : DocRel d d') : ∀ f ∈ d.fragments, ∃ sel', SelsEq f.sel sel' ∧ ({ f with sel := sel' } : FragDef) ∈ d'.fragments := by
  intro f hf
  obtain ⟨_, hy, hr⟩ := h.mem _ ((mem_fragments_iff d f).1 hf)
  cases hr with
  | frag _ hs => exact ⟨_, hs, (mem_fragments_iff d' _).2 hy⟩

end Gql
