/-
  Lemmas/SelPermSpec.lean — SameResponseShape and FieldsInSetCanMerge do not depend on the order of
  the selections inside the selection sets of the document (fields, spreads, inline fragments, at
  any depth, in operations and in fragment definitions), provided argument names are unique per
  field (otherwise "identical arguments" is not a symmetric notion).
-/
import GqlVerif.Lemmas.SelPerm
namespace Gql
open Gql.Spec

mutual
def aoSel : Selection → Prop
  | .field _ _ _ args _ sel => (args.map (·.1)).Nodup ∧ aoSels sel
  | .spread _ _ _ => True
  | .inline _ _ _ sel => aoSels sel
def aoSels : List Selection → Prop
  | [] => True
  | x :: xs => aoSel x ∧ aoSels xs
end

/-- every field of the document has unique argument names -/
def AODoc (d : Document) : Prop := ∀ x ∈ d, aoSels x.selections

/-- a collected field with unique argument names on itself and everywhere below -/
def GA (a : AstAndDef) : Prop := ArgsOk a ∧ aoSels a.field.sel

theorem aoSels_rel {a b : List Selection} (h : SelsEq a b) : aoSels a ↔ aoSels b := by
  induction h with
  | refl l => exact Iff.rfl
  | swap x y l => simp only [aoSels]; constructor <;> (rintro ⟨h1, h2, h3⟩; exact ⟨h2, h1, h3⟩)
  | cons x _ ih => simp only [aoSels, ih]
  | field pos alias name args dirs l _ ih => simp only [aoSels, aoSel, ih]
  | inline pos tc dirs l _ ih => simp only [aoSels, aoSel, ih]
  | trans _ _ ih1 ih2 => exact ih1.trans ih2

theorem ga_closed : GClosed GA := by
  rintro a a' ⟨h1, h2⟩ ⟨sel', rfl, hs⟩
  exact ⟨h1, (aoSels_rel hs).1 h2⟩

theorem spec_good (s : Schema) (sp : Name → List AstAndDef) (hsp : ∀ nm, ∀ y ∈ sp nm, GA y) :
    (∀ (x : Selection) (parent : Option TypeDef), aoSel x → ∀ a ∈ specFieldsSelWith s sp parent x, GA a) ∧
    ∀ (xs : List Selection) (parent : Option TypeDef), aoSels xs → ∀ a ∈ specFieldsWith s sp parent xs, GA a := by
  refine sels_induction ?_ ?_ ?_ ?_ ?_
  · intro pos alias name args dirs sel _ parent h a ha
    simp only [specFieldsSelWith, List.mem_singleton] at ha
    subst ha
    exact h
  · intro _ nm _ _ _ a ha
    exact hsp nm a ha
  · intro _ tc _ sel ih parent h a ha
    exact ih _ h a ha
  · intro _ _ a ha
    exact nomatch ha
  · intro x xs ih1 ih2 parent h a ha
    simp only [specFieldsWith, List.mem_append] at ha
    exact ha.elim (ih1 parent h.1 a) (ih2 parent h.2 a)

theorem specSel_good (s : Schema) (sp : Name → List AstAndDef) (hsp : ∀ nm, ∀ y ∈ sp nm, GA y) :
    ∀ (x : Selection) (parent : Option TypeDef), aoSel x → ∀ a ∈ specFieldsSelWith s sp parent x, GA a :=
  (spec_good s sp hsp).1
theorem specSels_good (s : Schema) (sp : Name → List AstAndDef) (hsp : ∀ nm, ∀ y ∈ sp nm, GA y) :
    ∀ (xs : List Selection) (parent : Option TypeDef), aoSels xs → ∀ a ∈ specFieldsWith s sp parent xs, GA a :=
  (spec_good s sp hsp).2

theorem spread_good (s : Schema) (d : Document) (hd : AODoc d) : ∀ (n : Nat) (nm : Name), ∀ y ∈ spreadFields s d n nm, GA y
  | 0, _, y, hy => by simp [spreadFields] at hy
  | n + 1, nm, y, hy => by
      cases hf : d.fragByName nm with
      | none => rw [spreadFields_succ_none s d n nm hf] at hy; simp at hy
      | some fr =>
        rw [spreadFields_succ_some s d n nm fr hf] at hy
        have hm := (mem_fragments_iff d fr).1 (fragByName_some_mem d hf).1
        exact specSels_good s _ (spread_good s d hd n) fr.sel _ (hd _ hm) y hy

theorem sub_good (s : Schema) (d : Document) (hd : AODoc d) (sf : Nat) (a : AstAndDef) (ha : GA a) :
    ∀ x ∈ subFields s d sf a, GA x :=
  specSels_good s _ (spread_good s d hd sf) a.field.sel _ ha.2

inductive DocRel : Document → Document → Prop
  | refl (d : Document) : DocRel d d
  | op (o : Operation) {sel' : List Selection} (l : Document) : SelsEq o.sel sel' → DocRel (.op o :: l) (.op { o with sel := sel' } :: l)
  | frag (f : FragDef) {sel' : List Selection} (l : Document) : SelsEq f.sel sel' → DocRel (.frag f :: l) (.frag { f with sel := sel' } :: l)
  | cons (x : Definition) {l l' : Document} : DocRel l l' → DocRel (x :: l) (x :: l')
  | trans {a b c : Document} : DocRel a b → DocRel b c → DocRel a c

inductive DefRel : Definition → Definition → Prop
  | op (o : Operation) {sel' : List Selection} : SelsEq o.sel sel' → DefRel (.op o) (.op { o with sel := sel' })
  | frag (f : FragDef) {sel' : List Selection} : SelsEq f.sel sel' → DefRel (.frag f) (.frag { f with sel := sel' })

theorem DefRel.refl : ∀ x : Definition, DefRel x x
  | .op o => .op o (.refl _)
  | .frag f => .frag f (.refl _)

theorem DefRel.trans {a b c : Definition} (h1 : DefRel a b) (h2 : DefRel b c) : DefRel a c := by
  cases h1 with
  | op o hs => cases h2 with | op _ hs2 => exact .op o (.trans hs hs2)
  | frag f hs => cases h2 with | frag _ hs2 => exact .frag f (.trans hs hs2)

theorem DefRel.selections {x y : Definition} (h : DefRel x y) : SelsEq x.selections y.selections := by
  cases h with
  | op o hs => exact hs
  | frag f hs => exact hs

theorem DocRel.mem {d d' : Document} (h : DocRel d d') : Cover DefRel d d' := by
  induction h with
  | refl d => exact .refl DefRel.refl d
  | op o l hs => exact (Cover.refl DefRel.refl l).cons (.op o hs)
  | frag f l hs => exact (Cover.refl DefRel.refl l).cons (.frag f hs)
  | cons y _ ih => exact ih.cons (.refl y)
  | trans _ _ ih1 ih2 => exact ih1.trans DefRel.trans ih2

theorem DocRel.symm {d d' : Document} (h : DocRel d d') : DocRel d' d := by
  induction h with
  | refl d => exact .refl d
  | op o l hs => exact DocRel.op { o with sel := _ } l hs.symm
  | frag f l hs => exact DocRel.frag { f with sel := _ } l hs.symm
  | cons x _ ih => exact .cons x ih
  | trans _ _ ih1 ih2 => exact .trans ih2 ih1

theorem fragByName_cons (x : Definition) (rest : Document) (nm : Name) :
    Document.fragByName (x :: rest) nm =
      match Document.fragByName rest nm with
      | some g => some g
      | none => match x with
        | .frag f => if f.name == nm then some f else none
        | .op _ => none := by
  cases x with
  | op o =>
    simp only [Document.fragByName, Document.fragments]
    cases List.find? (fun x => x.name == nm) (Document.fragments rest).reverse <;> rfl
  | frag f =>
    simp only [Document.fragByName, Document.fragments, List.reverse_cons, List.find?_append]
    cases List.find? (fun x => x.name == nm) (Document.fragments rest).reverse with
    | some g => rfl
    | none => cases h : (f.name == nm) <;> simp [List.find?, h]

/-- what the two documents resolve a fragment name to -/
inductive FLR : Option FragDef → Option FragDef → Prop
  | none : FLR none none
  | some (f : FragDef) {sel' : List Selection} : SelsEq f.sel sel' → FLR (some f) (some { f with sel := sel' })

theorem FLR.refl : ∀ o : Option FragDef, FLR o o
  | .none => .none
  | .some f => .some f (.refl _)

theorem FLR.symm {a b : Option FragDef} (h : FLR a b) : FLR b a := by
  cases h with
  | none => exact .none
  | some f hs => exact .some { f with sel := _ } hs.symm

theorem FLR.trans {a b c : Option FragDef} (h1 : FLR a b) (h2 : FLR b c) : FLR a c := by
  cases h1 with
  | none => exact h2
  | some f hs =>
    cases h2 with
    | some _ hs2 => exact .some f (.trans hs hs2)

theorem fragLook {d d' : Document} (h : DocRel d d') : ∀ nm, FLR (d.fragByName nm) (d'.fragByName nm) := by
  induction h with
  | refl d => intro nm; exact FLR.refl _
  | op o l _ => intro nm; rw [fragByName_cons, fragByName_cons]; exact FLR.refl _
  | frag f l hs =>
    intro nm
    rw [fragByName_cons, fragByName_cons]
    cases Document.fragByName l nm with
    | some g => exact FLR.refl _
    | none =>
      simp only
      split
      · exact .some f hs
      · exact .none
  | @cons x l l' _ ih =>
    intro nm
    rw [fragByName_cons, fragByName_cons]
    have h := ih nm
    generalize Document.fragByName l nm = u at h ⊢
    generalize Document.fragByName l' nm = v at h ⊢
    cases h with
    | none => exact FLR.refl _
    | some f hs => exact .some f hs
  | trans _ _ ih1 ih2 => intro nm; exact (ih1 nm).trans (ih2 nm)

theorem spreadFields_rel (s : Schema) {d d' : Document} (h : DocRel d d') : ∀ (n : Nat) (nm : Name),
    LRel (spreadFields s d n nm) (spreadFields s d' n nm)
  | 0, _ => .refl _
  | n + 1, nm => by
      simp only [spreadFields]
      have hl := fragLook h nm
      generalize Document.fragByName d nm = u at hl ⊢
      generalize Document.fragByName d' nm = v at hl ⊢
      cases hl with
      | none => exact .refl _
      | some f hs => exact specFieldsWith_rel s hs _ _ (spreadFields_rel s h n) _

theorem subFields_rel (s : Schema) {d d' : Document} (h : DocRel d d') (sf : Nat) {a a' : AstAndDef} (ha : ARel a a') :
    LRel (subFields s d sf a) (subFields s d' sf a') := by
  unfold subFields specFields
  rw [ha.fdef]
  exact specFieldsWith_rel s ha.sel _ _ (spreadFields_rel s h sf) _

/-- the list both recursive tests run on -/
theorem subFields_pair_rel (s : Schema) {d d' : Document} (h : DocRel d d') (sf : Nat) {a a' b b' : AstAndDef} (ha : ARel a a')
    (hb : ARel b b') : LRel (subFields s d sf a ++ subFields s d sf b) (subFields s d' sf a' ++ subFields s d' sf b') :=
  (subFields_rel s h sf ha).append (subFields_rel s h sf hb)

theorem sub_pair_good (s : Schema) (d : Document) (hd : AODoc d) (sf : Nat) {a b : AstAndDef} (ga : GA a) (gb : GA b) :
    ∀ x ∈ subFields s d sf a ++ subFields s d sf b, GA x := fun x hx =>
  (List.mem_append.1 hx).elim (sub_good s d hd sf a ga x) (sub_good s d hd sf b gb x)

theorem typesAgree_rel (s : Schema) {a a' b b' : AstAndDef} (ha : ARel a a') (hb : ARel b b') :
    typesAgree s a b = typesAgree s a' b' := by
  unfold typesAgree
  rw [ha.fdef, hb.fdef]

def GT : AstAndDef → Prop := fun _ => True
theorem gt_closed : GClosed GT := fun _ _ _ _ => trivial

theorem srs_rel_sym (s : Schema) (sf : Nat) : ∀ n : Nat,
    (∀ d d', DocRel d d' → PRelG GT (sameResponseShape s d sf n) (sameResponseShape s d' sf n)) ∧
    (∀ d, PSymG GT (sameResponseShape s d sf n))
  | 0 => ⟨fun _ _ _ _ _ _ _ _ _ _ _ => rfl, fun _ _ _ _ _ => rfl⟩
  | n + 1 => by
      obtain ⟨ihr, ihs⟩ := srs_rel_sym s sf n
      constructor
      · intro d d' h a a' b b' _ _ ha hb
        rw [srs_succ, srs_succ, typesAgree_rel s ha hb,
          allPairs_rel GT gt_closed _ _ (ihr d d' h) (ihs d) (subFields_pair_rel s h sf ha hb) fun _ _ => trivial]
      · intro d a b _ _
        rw [srs_succ, srs_succ, typesAgree_comm,
          allPairs_rel_same GT gt_closed _ (ihr d d (.refl d)) (ihs d) (LRel.of_perm List.perm_append_comm) fun _ _ => trivial]

theorem identicalArguments_comm (a b : List Arg) (ha : (a.map (·.1)).Nodup) (hb : (b.map (·.1)).Nodup) :
    identicalArguments a b = identicalArguments b a :=
  Bool.eq_iff_iff.2 ⟨identicalArguments_symm a b ha hb, identicalArguments_symm b a hb ha⟩

/-- the pair test of one level is as invariant and as symmetric as FieldsInSetCanMerge on the sub-selections -/
theorem pairOk_of_cm (s : Schema) (sf n : Nat)
    (hcm : ∀ d d', DocRel d d' → AODoc d → ∀ L L' : List AstAndDef, LRel L L' → (∀ a ∈ L, GA a) →
      fieldsInSetCanMerge s d sf n L = fieldsInSetCanMerge s d' sf n L') :
    (∀ d d', DocRel d d' → AODoc d → PRelG GA (pairOk s d sf n) (pairOk s d' sf n)) ∧
    (∀ d, AODoc d → PSymG GA (pairOk s d sf n)) := by
  obtain ⟨sr, ss⟩ := srs_rel_sym s sf n
  constructor
  · intro d d' h hd a a' b b' ga gb ha hb
    have hp : parentsMayCoincide a' b' = parentsMayCoincide a b := by unfold parentsMayCoincide; rw [ha.parent, hb.parent]
    unfold pairOk
    rw [hp, ha.name, hb.name, ha.args, hb.args, sr d d' h a a' b b' trivial trivial ha hb,
      hcm d d' h hd _ _ (subFields_pair_rel s h sf ha hb) (sub_pair_good s d hd sf ga gb)]
  · intro d hd a b ga gb
    unfold pairOk
    rw [parentsMayCoincide_comm a b, BEq.comm (a := a.field.name), identicalArguments_comm _ _ ga.1 gb.1, ss d a b trivial trivial,
      hcm d d (.refl d) hd _ _ (LRel.of_perm List.perm_append_comm) (sub_pair_good s d hd sf ga gb)]

theorem cm_inv (s : Schema) (sf : Nat) : ∀ (n : Nat) (d d' : Document), DocRel d d' → AODoc d → ∀ L L' : List AstAndDef,
    LRel L L' → (∀ a ∈ L, GA a) → fieldsInSetCanMerge s d sf n L = fieldsInSetCanMerge s d' sf n L'
  | 0, _, _, _, _, _, _, _, _ => rfl
  | n + 1, d, d', h, hd, L, L', hl, hg => by
      obtain ⟨pr, ps⟩ := pairOk_of_cm s sf n (cm_inv s sf n)
      rw [cm_succ, cm_succ]
      exact allPairs_rel GA ga_closed _ _ (pr d d' h hd) (ps d hd) hl hg

theorem pairOk_rel_sym (s : Schema) (sf : Nat) : ∀ n : Nat,
    (∀ d d', DocRel d d' → AODoc d → PRelG GA (pairOk s d sf n) (pairOk s d' sf n)) ∧
    (∀ d, AODoc d → PSymG GA (pairOk s d sf n)) :=
  fun n => pairOk_of_cm s sf n (cm_inv s sf n)

/-- **FieldsInSetCanMerge does not depend on the order of selections** -/
theorem cm_rel (s : Schema) {d d' : Document} (h : DocRel d d') (hd : AODoc d) (sf : Nat) : ∀ (n : Nat) {L L' : List AstAndDef},
    LRel L L' → (∀ a ∈ L, GA a) → fieldsInSetCanMerge s d sf n L = fieldsInSetCanMerge s d' sf n L' :=
  fun n _ _ hl hg => cm_inv s sf n d d' h hd _ _ hl hg

end Gql
