/-
  Lemmas/FragGraph.lean — basic facts about the fragment-spread graph of a document.
-/
import GqlVerif.Spec.Fragments
import GqlVerif.Lemmas.Collect
namespace Gql
open Gql.Spec

theorem fragByName_isSome_of_mem (d : Document) {f : FragDef} (h : f ∈ d.fragments) :
    (d.fragByName f.name).isSome = true :=
  List.find?_isSome.2 ⟨f, List.mem_reverse.2 h, beq_self_eq_true _⟩

theorem fragByName_none_iff (d : Document) (n : Name) : d.fragByName n = none ↔ ∀ f ∈ d.fragments, f.name ≠ n := by
  unfold Document.fragByName
  simp only [List.find?_eq_none, List.mem_reverse, beq_iff_eq, ne_eq]

theorem filter_eq_singleton_of_nodup {α β : Type} [DecidableEq β] (g : α → β) (l : List α) (x : α) :
    (l.map g).Nodup → x ∈ l → l.filter (fun y => g y == g x) = [x] := by
  induction l with
  | nil => exact fun _ hx => absurd hx List.not_mem_nil
  | cons y ys ih =>
    intro hn hx
    simp only [List.map_cons, List.nodup_cons, List.mem_map, not_exists, not_and] at hn
    rcases List.mem_cons.1 hx with rfl | hx
    · have : ys.filter (fun y => g y == g x) = [] := by
        rw [List.filter_eq_nil_iff]
        intro z hz hc
        exact hn.1 z hz (by simpa using hc)
      simp [this]
    · have hne : ¬ g y = g x := fun h => hn.1 x hx h.symm
      simp only [List.filter_cons, beq_iff_eq, hne, if_false]
      exact ih hn.2 hx

theorem fragByName_of_nodup (d : Document) (hn : (d.fragments.map (·.name)).Nodup) {f : FragDef}
    (h : f ∈ d.fragments) : d.fragByName f.name = some f :=
  find?_key_of_nodup (fun x : FragDef => x.name) (l := d.fragments.reverse)
    (List.map_reverse ▸ List.pairwise_reverse.2 (hn.imp Ne.symm)) (List.mem_reverse.2 h)

theorem spreadsOf_of_nodup (d : Document) (hn : (d.fragments.map (·.name)).Nodup) {f : FragDef}
    (h : f ∈ d.fragments) : spreadsOf d f.name = (recursiveSpreads f.sel).map (·.name) := by
  unfold spreadsOf
  rw [filter_eq_singleton_of_nodup (fun x : FragDef => x.name) d.fragments f hn h]
  simp

theorem spreadsOf_mem_of_mem (d : Document) {f : FragDef} (h : f ∈ d.fragments) {sp : SpreadNode}
    (hs : sp ∈ recursiveSpreads f.sel) : sp.name ∈ spreadsOf d f.name :=
  List.mem_flatMap.2 ⟨f, List.mem_filter.2 ⟨h, beq_self_eq_true _⟩, List.mem_map.2 ⟨sp, hs, rfl⟩⟩

theorem spreadsOf_undefined (d : Document) {a : Name} (h : d.fragByName a = none) : spreadsOf d a = [] := by
  unfold spreadsOf
  have := (fragByName_none_iff d a).1 h
  have hf : d.fragments.filter (fun f => f.name == a) = [] := by
    rw [List.filter_eq_nil_iff]
    intro f hf hc
    exact this f hf (beq_iff_eq.1 hc)
  rw [hf]; rfl

theorem reachable_undefined (d : Document) {a c : Name} (h : d.fragByName a = none)
    (hr : Reachable (spreadsOf d) a c) : c = a := by
  cases hr with
  | refl => rfl
  | step hm _ => rw [spreadsOf_undefined d h] at hm; simp at hm

theorem defined_of_edge (d : Document) {a b : Name} (h : b ∈ spreadsOf d a) : (d.fragByName a).isSome = true := by
  cases hf : d.fragByName a with
  | none => rw [spreadsOf_undefined d hf] at h; simp at h
  | some _ => rfl

end Gql
