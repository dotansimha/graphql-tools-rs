/-
  Lemmas/TraverseNodes.lean — most of the traversal does not concern a given rule or notion.  A
  callback at which `on` hands back the state and reports nothing leaves the accumulator alone; and
  to show that a property holds of every event below a value, an argument list, the variable
  definitions or a directive list it suffices to show it at the node kinds that occur there.
-/
import GqlVerif.Lemmas.Levels
import GqlVerif.Model.Rules.Basic
namespace Gql

theorem Rule.step_of_on {r : Rule} {s : Schema} {d : Document} {acc : r.σ × List Err} {e : Ev × Snap} {σ' : r.σ}
    (h : r.on s d acc.1 e = (σ', [])) : r.step s d acc e = (σ', acc.2) := by
  unfold Rule.step; rw [h]; exact Prod.ext rfl (List.append_nil _)

/-- the nodes of a value literal -/
def Node.isValue : Node → Bool
  | .nullValue | .scalar _ | .enumValue _ | .variable _ | .list _ | .object _ | .objectField _ => true
  | _ => false

section
variable {P : Ev → Prop}

abbrev AtNode (P : Ev → Prop) (n : Node) : Prop := P (.enter n) ∧ P (.leave n)

theorem forall_bracket {n : Node} {l : List Ev} (hn : AtNode P n) (hl : ∀ ev ∈ l, P ev) :
    ∀ ev ∈ .enter n :: l ++ [.leave n], P ev := by
  intro ev hev
  rcases List.mem_cons.1 hev with rfl | hev
  · exact hn.1
  · rcases List.mem_append.1 hev with hev | hev
    · exact hl ev hev
    · rw [List.mem_singleton.1 hev]; exact hn.2

theorem forall_append {a b : List Ev} (ha : ∀ ev ∈ a, P ev) (hb : ∀ ev ∈ b, P ev) : ∀ ev ∈ a ++ b, P ev :=
  fun ev hev => (List.mem_append.1 hev).elim (ha ev) (hb ev)

theorem forall_nil : ∀ ev ∈ ([] : List Ev), P ev := fun _ h => nomatch h

theorem Node.isValue_eq (n : Node) : n.isValue = (n.level == 0) := by cases n <;> rfl

theorem forall_step {k : Nat} (h : ∀ n : Node, n.level ≤ k → AtNode P n) :
    Traversal.Step (fun l => ∀ ev ∈ l, P ev) k where
  nil := forall_nil
  append := forall_append
  node n hn hin := forall_bracket (h n hn) hin

variable (hv : ∀ n, n.isValue = true → AtNode P n)
include hv

theorem forall_step_value : Traversal.Step (fun l => ∀ ev ∈ l, P ev) 0 :=
  forall_step fun n hn => hv n (by rw [Node.isValue_eq, Nat.le_zero.1 hn]; rfl)

theorem forall_traverseValue : ∀ v, ∀ ev ∈ traverseValue v, P ev := (forall_step_value hv).value
theorem forall_traverseValues : ∀ vs, ∀ ev ∈ traverseValues vs, P ev := (forall_step_value hv).values
theorem forall_traverseObjFields : ∀ fs, ∀ ev ∈ traverseObjFields fs, P ev := (forall_step_value hv).objFields

theorem forall_traverseArguments (ha : ∀ a, AtNode P (.argument a)) : ∀ as, ∀ ev ∈ traverseArguments as, P ev
  | [] => forall_nil
  | a :: as => by
      rw [traverseArguments]
      exact forall_append (forall_bracket (ha a) (forall_traverseValue hv a.2)) (forall_traverseArguments ha as)

theorem forall_traverseVarDefs (hd : ∀ v, AtNode P (.varDef v)) : ∀ vs, ∀ ev ∈ traverseVarDefs vs, P ev
  | [] => forall_nil
  | v :: vs => by
      rw [traverseVarDefs]
      refine forall_append (forall_bracket (hd v) ?_) (forall_traverseVarDefs hd vs)
      cases v.default with
      | none => exact forall_nil
      | some dv => exact forall_traverseValue hv dv

theorem forall_traverseDirectives (ha : ∀ a, AtNode P (.argument a)) (hd : ∀ d, AtNode P (.directive d)) :
    ∀ ds, ∀ ev ∈ traverseDirectives ds, P ev
  | [] => forall_nil
  | d :: ds => by
      rw [traverseDirectives]
      exact forall_append (forall_bracket (hd d) (forall_traverseArguments hv ha d.args))
        (forall_traverseDirectives ha hd ds)

end
end Gql
