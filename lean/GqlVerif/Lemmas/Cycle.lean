/-
  Lemmas/Cycle.lean — no_fragments_cycle.rs: `detect_cycles` reports an error exactly when the
  fragment-spread graph has a cycle.

  Soundness: a spread of a name on the current path closes a cycle (every name on the path
  reaches the fragment being scanned).  Completeness: names that are marked and no longer on the
  path form a successor-closed, cycle-free set ("finished" nodes); if nothing is reported, in the
  end every fragment is finished.
-/
import GqlVerif.Lemmas.FragGraph
import GqlVerif.Lemmas.Dfs
import GqlVerif.Lemmas.AssocList
import GqlVerif.Model.Rules.Fragments
namespace Gql
open Gql.Spec

section
variable (d : Document)

/-- marked names not on the path `S` are finished: their defined successors are finished and
    they lie on no cycle -/
def Good (V S : List Name) : Prop :=
  ∀ v ∈ V, v ∉ S →
    (∀ w ∈ spreadsOf d v, (d.fragByName w).isSome = true → w ∈ V ∧ w ∉ S) ∧
    ¬ ∃ b ∈ spreadsOf d v, Reachable (spreadsOf d) b v

/-- `spread_path_index_by_name` has exactly the names of the path as keys -/
def StackOk (idx : List (Name × Nat)) (S : List Name) : Prop := ∀ k, (alGet idx k).isSome = true ↔ k ∈ S

def fragUniverse : List Name := d.fragments.map (·.name)

theorem reachable_defined {b c : Name} (hr : Reachable (spreadsOf d) b c) (hc : (d.fragByName c).isSome = true) :
    (d.fragByName b).isSome = true := by
  cases hb : d.fragByName b with
  | none => rw [reachable_undefined d hb hr, hb] at hc; exact hc
  | some _ => rfl

theorem good_reach {V S : List Name} (hg : Good d V S) {b c : Name} (hr : Reachable (spreadsOf d) b c) :
    b ∈ V → b ∉ S → (d.fragByName c).isSome = true → c ∈ V ∧ c ∉ S := by
  induction hr with
  | refl => intro h1 h2 _; exact ⟨h1, h2⟩
  | @step a b' c hm hr ih =>
    intro h1 h2 hc
    obtain ⟨h3, h4⟩ := (hg a h1 h2).1 b' hm (reachable_defined d hr hc)
    exact ih h3 h4 hc

theorem Good.push {V S : List Name} (hg : Good d V S) {x : Name} (hx : x ∉ V) : Good d (x :: V) (x :: S) := by
  intro v hvV hvS
  have hvV' : v ∈ V := (List.mem_cons.1 hvV).resolve_left fun h => hvS (h ▸ List.mem_cons_self ..)
  obtain ⟨h1, h2⟩ := hg v hvV' fun h => hvS (List.mem_cons_of_mem _ h)
  refine ⟨fun w hw hdef => ?_, h2⟩
  obtain ⟨h3, h4⟩ := h1 w hw hdef
  exact ⟨List.mem_cons_of_mem _ h3, fun h => (List.mem_cons.1 h).elim (fun h => hx (h ▸ h3)) h4⟩

theorem Good.pop {V S : List Name} {x : Name} (hg : Good d V (x :: S)) (hdef : (d.fragByName x).isSome = true)
    (hx : ∀ w ∈ spreadsOf d x, (d.fragByName w).isSome = true → w ∈ V ∧ w ∉ x :: S) : Good d V S := by
  intro v hvV hvS
  by_cases hvx : v = x
  · rw [hvx]
    refine ⟨fun w hw hd => ⟨(hx w hw hd).1, fun h => (hx w hw hd).2 (List.mem_cons_of_mem _ h)⟩, ?_⟩
    rintro ⟨b, hb, hr⟩
    have hbdef := reachable_defined d hr hdef
    exact (good_reach d hg hr (hx b hb hbdef).1 (hx b hb hbdef).2 hdef).2 (List.mem_cons_self ..)
  · obtain ⟨h1, h2⟩ := hg v hvV fun h => (List.mem_cons.1 h).elim hvx hvS
    exact ⟨fun w hw hd => ⟨(h1 w hw hd).1, fun h => (h1 w hw hd).2 (List.mem_cons_of_mem _ h)⟩, h2⟩

/-- the errors grow from `errs` to `errs'` only by reports of real cycles, and if they do not
    grow, `K` holds -/
def Reports (errs errs' : List Err) (K : Prop) : Prop :=
  ∃ new, errs' = errs ++ new ∧ (new ≠ [] → FragmentCycle d) ∧ (new = [] → K)

section
variable {d}

theorem Reports.refl {errs : List Err} {K : Prop} (h : K) : Reports d errs errs K :=
  ⟨[], (List.append_nil _).symm, fun h => absurd rfl h, fun _ => h⟩

theorem Reports.cycle (errs : List Err) (e : Err) (h : FragmentCycle d) : Reports d errs (errs ++ [e]) False :=
  ⟨[e], rfl, fun _ => h, fun h => nomatch h⟩

theorem Reports.trans {e0 e1 e2 : List Err} {K1 K2 : Prop} (h1 : Reports d e0 e1 K1) (h2 : Reports d e1 e2 K2) :
    Reports d e0 e2 (K1 ∧ K2) := by
  obtain ⟨new1, he1, hc1, hk1⟩ := h1
  obtain ⟨new2, he2, hc2, hk2⟩ := h2
  refine ⟨new1 ++ new2, by rw [he2, he1, List.append_assoc], fun hne => ?_, fun hnil => ?_⟩
  · by_cases h : new1 = []
    · exact hc2 fun h2 => hne (by rw [h, h2]; rfl)
    · exact hc1 h
  · exact ⟨hk1 (List.append_eq_nil_iff.1 hnil).1, hk2 (List.append_eq_nil_iff.1 hnil).2⟩

theorem Reports.mono {e0 e1 : List Err} {K K' : Prop} (h : Reports d e0 e1 K) (hk : K → K') : Reports d e0 e1 K' :=
  let ⟨new, he, hc, h⟩ := h
  ⟨new, he, hc, fun hn => hk (h hn)⟩

end

/-- the statement proved about one call of `detect_cycles` at fuel `n` -/
def DetectSpec (n : Nat) : Prop :=
  ∀ (frag : FragDef) (path : List SpreadNode) (idx : List (Name × Nat)) (st : CycleState) (S : List Name),
    frag ∈ d.fragments → StackOk idx S → frag.name ∉ S →
    (∀ k ∈ S, Reachable (spreadsOf d) k frag.name) → (∀ k ∈ S, k ∈ st.visited) →
    st.stuck = false → unmarked (fragUniverse d) st.visited < n →
    let st' := detectCycles d n frag path idx st
    (∀ z ∈ st.visited, z ∈ st'.visited) ∧ st'.stuck = false ∧ frag.name ∈ st'.visited ∧
    Reports d st.errs st'.errs (Good d st.visited S → Good d st'.visited S)

section
variable {d} (n : Nat) (ih : DetectSpec d n) {frag : FragDef} (hf : frag ∈ d.fragments) (path : List SpreadNode)
  {idx' : List (Name × Nat)} {S' : List Name} (hS' : StackOk idx' S')
  (hreach : ∀ k ∈ S', Reachable (spreadsOf d) k frag.name)
include ih hf hS' hreach

theorem cycle_step {sp : SpreadNode} (hsp : sp ∈ recursiveSpreads frag.sel) (st : CycleState)
    (hSv : ∀ k ∈ S', k ∈ st.visited) (hst : st.stuck = false) (hum : unmarked (fragUniverse d) st.visited < n) :
    let st' := cycleStep d (detectCycles d n) path idx' st sp
    (∀ z ∈ st.visited, z ∈ st'.visited) ∧ st'.stuck = false ∧
    Reports d st.errs st'.errs (Good d st.visited S' →
      Good d st'.visited S' ∧ ((d.fragByName sp.name).isSome = true → sp.name ∈ st'.visited ∧ sp.name ∉ S')) := by
  have hedge : sp.name ∈ spreadsOf d frag.name := spreadsOf_mem_of_mem d hf hsp
  cases hidx : alGet idx' sp.name with
  | some ci =>
    -- a spread of a name on the path: reported, and it is a cycle
    simp only [cycleStep, hidx]
    have hon : sp.name ∈ S' := (hS' sp.name).1 (by rw [hidx]; rfl)
    exact ⟨fun _ h => h, hst, (Reports.cycle _ _ ⟨frag.name, sp.name, hedge, hreach sp.name hon⟩).mono False.elim⟩
  | none =>
    have hoff : sp.name ∉ S' := fun h => by
      have := (hS' sp.name).2 h; rw [hidx] at this; cases this
    cases hfd : d.fragByName sp.name with
    | none =>
      simp only [cycleStep, hidx, hfd]
      exact ⟨fun _ h => h, hst, Reports.refl fun hg => ⟨hg, fun hdef => nomatch hdef⟩⟩
    | some fd =>
      obtain ⟨hfdm, hfdn⟩ := fragByName_some_mem d hfd
      simp only [cycleStep, hidx, hfd]
      obtain ⟨hm, hs, hin, hr⟩ := ih fd (path ++ [sp]) idx' st S' hfdm hS' (by rw [hfdn]; exact hoff)
        (fun k hk => by rw [hfdn]; exact (hreach k hk).tail hedge) hSv hst hum
      exact ⟨hm, hs, hr.mono fun h hg => ⟨h hg, fun _ => ⟨hfdn ▸ hin, hoff⟩⟩⟩

theorem cycle_fold (sps : List SpreadNode) : ∀ st : CycleState, (∀ sp ∈ sps, sp ∈ recursiveSpreads frag.sel) →
    (∀ k ∈ S', k ∈ st.visited) → st.stuck = false → unmarked (fragUniverse d) st.visited < n →
    let st' := sps.foldl (cycleStep d (detectCycles d n) path idx') st
    (∀ z ∈ st.visited, z ∈ st'.visited) ∧ st'.stuck = false ∧
    Reports d st.errs st'.errs (Good d st.visited S' →
      Good d st'.visited S' ∧
      ∀ sp ∈ sps, (d.fragByName sp.name).isSome = true → sp.name ∈ st'.visited ∧ sp.name ∉ S') := by
  induction sps with
  | nil => exact fun st _ _ hst _ => ⟨fun _ h => h, hst, Reports.refl fun hg => ⟨hg, fun _ h => absurd h List.not_mem_nil⟩⟩
  | cons sp sps ihs =>
    intro st hsps hSv hst hum
    obtain ⟨hm1, hs1, hr1⟩ := cycle_step n ih hf path hS' hreach (hsps sp List.mem_cons_self) st hSv hst hum
    obtain ⟨hm2, hs2, hr2⟩ := ihs _ (fun x hx => hsps x (List.mem_cons_of_mem _ hx))
      (fun k hk => hm1 k (hSv k hk)) hs1 (Nat.lt_of_le_of_lt (unmarked_le_of_subset _ hm1) hum)
    refine ⟨fun z hz => hm2 z (hm1 z hz), hs2, (hr1.trans hr2).mono fun h hg => ?_⟩
    obtain ⟨hg1, hsp⟩ := h.1 hg
    obtain ⟨hg2, hall⟩ := h.2 hg1
    refine ⟨hg2, fun x hx hdef => ?_⟩
    rcases List.mem_cons.1 hx with rfl | hx
    · exact ⟨hm2 _ (hsp hdef).1, (hsp hdef).2⟩
    · exact hall x hx hdef

end

theorem detectCycles_succ (n : Nat) (frag : FragDef) (path : List SpreadNode) (idx : List (Name × Nat))
    (st : CycleState) (hv : st.visited.contains frag.name = false) :
    detectCycles d (n + 1) frag path idx st =
      (recursiveSpreads frag.sel).foldl (cycleStep d (detectCycles d n) path (alInsert idx frag.name path.length))
        { st with visited := frag.name :: st.visited } := by
  simp only [detectCycles, hv, Bool.false_eq_true, if_false]
  split
  · rename_i he
    have : recursiveSpreads frag.sel = [] := by simpa using he
    rw [this]; rfl
  · rfl

theorem detect_spec (hn : (d.fragments.map (·.name)).Nodup) (n : Nat) : DetectSpec d n := by
  induction n with
  | zero => exact fun _ _ _ _ _ _ _ _ _ _ _ hum => absurd hum (Nat.not_lt_zero _)
  | succ n ihn =>
      intro frag path idx st S hf hS hfS hreach hSv hst hum
      by_cases hv : st.visited.contains frag.name = true
      · have : detectCycles d (n + 1) frag path idx st = st := by simp only [detectCycles, hv, if_true]
        simp only [this]
        exact ⟨fun _ h => h, hst, List.contains_iff_mem.1 hv, Reports.refl fun hg => hg⟩
      · have hv0 : st.visited.contains frag.name = false := Bool.eq_false_iff.2 hv
        have hv' : frag.name ∉ st.visited := fun h => hv (List.contains_iff_mem.2 h)
        simp only [detectCycles_succ d n frag path idx st hv0]
        have hU : frag.name ∈ fragUniverse d := List.mem_map.2 ⟨frag, hf, rfl⟩
        have hum1 : unmarked (fragUniverse d) (frag.name :: st.visited) < n :=
          Nat.lt_of_lt_of_le (unmarked_lt_of (fragUniverse d) (V' := frag.name :: st.visited) hU hv'
            (fun z hz => List.mem_cons_of_mem _ hz) (List.mem_cons_self ..)) (Nat.le_of_lt_succ hum)
        have hS' : StackOk (alInsert idx frag.name path.length) (frag.name :: S) := by
          intro k
          rw [alGet_alInsert]
          by_cases hk : k = frag.name
          · rw [if_pos hk, hk]
            exact ⟨fun _ => List.mem_cons_self .., fun _ => rfl⟩
          · rw [if_neg hk, List.mem_cons]
            exact (hS k).trans ⟨Or.inr, fun h => h.resolve_left hk⟩
        obtain ⟨hm, hs, hr⟩ := cycle_fold n ihn hf path hS' (List.forall_mem_cons.2 ⟨.refl _, hreach⟩)
          (recursiveSpreads frag.sel) { st with visited := frag.name :: st.visited } (fun _ h => h)
          (List.forall_mem_cons.2 ⟨List.mem_cons_self .., fun k hk => List.mem_cons_of_mem _ (hSv k hk)⟩)
          hst hum1
        refine ⟨fun z hz => hm z (List.mem_cons_of_mem _ hz), hs, hm _ (List.mem_cons_self ..), hr.mono fun hg hgood => ?_⟩
        obtain ⟨hB, hX⟩ := hg (hgood.push d hv')
        refine hB.pop d (fragByName_isSome_of_mem d hf) fun w hw hdef => ?_
        rw [spreadsOf_of_nodup d hn hf] at hw
        obtain ⟨sp, hsp, rfl⟩ := List.mem_map.1 hw
        exact hX sp hsp hdef

end
end Gql
