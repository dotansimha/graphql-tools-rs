/-
  Lemmas/ValueSites.lean — the report of values_of_correct_type.rs over a whole document is the
  concatenation, over the document's top-level literal positions (argument values of fields and
  directives, variable defaults), of what it reports inside that literal (`vErrs`).
-/
import GqlVerif.Lemmas.Values
import GqlVerif.Lemmas.WalkStep
namespace Gql
open Gql.Spec

/-- a top-level literal position: the expected type the context offers there, and the literal -/
def siteOf (e : Ev × Snap) : Option (Option Ty × Value) :=
  match e.1 with
  | .enter (.argument a) => some (e.2.inpLit, a.2)
  | .enter (.varDef v) => v.default.map fun dv => (e.2.inpLit, dv)
  | _ => none

def litSites (tr : Trace) : List (Option Ty × Value) := tr.filterMap siteOf

def vErrsP (s : Schema) (p : Option Ty × Value) : List Err := vErrs s p.1 p.2

def VocDecomp (s : Schema) (tr : Trace) : Prop :=
  tr.flatMap (vocCheck s) = (litSites tr).flatMap (vErrsP s)

theorem litSites_append (a b : Trace) : litSites (a ++ b) = litSites a ++ litSites b := List.filterMap_append ..

theorem litSites_wrap (x l : Ev × Snap) {t : Trace} (ht : litSites t = []) (hl : siteOf l = none := by rfl) :
    litSites (x :: t ++ [l]) = (siteOf x).toList := by
  unfold litSites at *
  rw [List.filterMap_append, List.filterMap_cons, ht, List.filterMap_cons, hl]
  cases siteOf x <;> rfl

theorem VocDecomp.nil (s : Schema) : VocDecomp s [] := rfl
theorem VocDecomp.append {s : Schema} {a b : Trace} (ha : VocDecomp s a) (hb : VocDecomp s b) :
    VocDecomp s (a ++ b) := by
  unfold VocDecomp at *
  rw [List.flatMap_append, litSites_append, List.flatMap_append, ha, hb]
theorem VocDecomp.quiet {s : Schema} {e : Ev × Snap} {t : Trace} (h1 : vocCheck s e = []) (h2 : siteOf e = none)
    (ht : VocDecomp s t) : VocDecomp s (e :: t) := by
  unfold VocDecomp litSites at *
  rw [List.flatMap_cons, h1, List.filterMap_cons, h2, ht]
  rfl

theorem walk_noSites (s : Schema) : (∀ (v : Value) (e : Snap), litSites (walkValue s e v) = []) ∧
    (∀ (vs : List Value) (e : Snap), litSites (walkValues s e vs) = []) ∧
    ∀ (fs : List (Name × Value)) (e : Snap), litSites (walkObjFields s e fs) = [] := by
  refine values_induction (fun _ _ => rfl) (fun _ _ => rfl) (fun _ _ => rfl) (fun _ _ => rfl) (fun _ _ => rfl) (fun _ => rfl)
    (fun _ _ => rfl) (fun vs ih e => litSites_wrap _ _ (ih _)) (fun fs ih e => litSites_wrap _ _ (ih e)) (fun _ => rfl) ?_
    (fun _ => rfl) ?_
  · intro v vs hv hvs e
    exact (litSites_append ..).trans (by rw [hv e, hvs e]; rfl)
  · intro k v fs hv hfs e
    exact (litSites_append ..).trans (by rw [litSites_wrap _ _ (hv _), hfs e]; rfl)

theorem walkValues_noSites (s : Schema) : ∀ (vs : List Value) (e : Snap), litSites (walkValues s e vs) = [] :=
  (walk_noSites s).2.1
theorem walkObjFields_noSites (s : Schema) : ∀ (fs : List (Name × Value)) (e : Snap), litSites (walkObjFields s e fs) = [] :=
  (walk_noSites s).2.2

theorem VocDecomp.literal {s : Schema} {x : Ev} {e : Snap} {v : Value} {l : Ev × Snap}
    (hx : siteOf (x, e) = some (e.inpLit, v)) (hq : vocCheck s (x, e) = []) (he : InpOk s e)
    (hl : siteOf l = none) (hql : vocCheck s l = []) : VocDecomp s ((x, e) :: walkValue s e v ++ [l]) := by
  unfold VocDecomp
  rw [litSites_wrap _ _ ((walk_noSites s).1 v e) hl, hx, List.flatMap_append, List.flatMap_cons, hq, walkValue_voc s v e he,
    List.flatMap_singleton, hql]
  rfl

theorem voc_arguments (s : Schema) (defs : Option (List InputValueDef)) (e : Snap) :
    ∀ as, VocDecomp s (walkArguments s defs e as)
  | [] => VocDecomp.nil s
  | _ :: as => (VocDecomp.literal rfl rfl (inpOk_withInput s _ e) rfl rfl).append (voc_arguments s defs e as)

theorem voc_varDefs (s : Schema) (e : Snap) : ∀ vs, VocDecomp s (walkVarDefs s e vs)
  | [] => VocDecomp.nil s
  | ⟨pos, name, ty, dflt⟩ :: vs => by
      refine VocDecomp.append ?_ (voc_varDefs s e vs)
      cases dflt with
      | none => exact .quiet rfl rfl (.quiet rfl rfl (.nil s))
      | some dv => exact .literal rfl rfl (inpOk_withInput s _ e) rfl rfl

theorem outer_quiet (s : Schema) {n : Node} (hn : n.outer = true) (e : Snap) :
    (vocCheck s (.enter n, e) = [] ∧ siteOf (.enter n, e) = none) ∧
      vocCheck s (.leave n, e) = [] ∧ siteOf (.leave n, e) = none := by
  cases n with
  | spread | inline | operation | fragmentDef | document => exact ⟨⟨rfl, rfl⟩, rfl, rfl⟩
  | _ => cases hn

theorem vocStep (s : Schema) : Walk.Step s (fun _ => True) (fun _ => True) (fun _ => True) (VocDecomp s) where
  nil := .nil s
  append := .append
  node {_ e _} hn _ ht :=
    have h := outer_quiet s hn e
    .quiet h.1.1 h.1.2 (.append ht (.quiet h.2.1 h.2.2 (.nil s)))
  selSet _ _ ht := .quiet rfl rfl (.append ht (.quiet rfl rfl (.nil s)))
  directive d _ := .quiet rfl rfl (.append (voc_arguments s _ _ d.args) (.quiet rfl rfl (.nil s)))
  field f _ _ _ hd hs :=
    .quiet rfl rfl (.append (.append (.append (voc_arguments s _ _ f.args) hd) hs) (.quiet rfl rfl (.nil s)))
  varDefs vs _ _ := voc_varDefs s _ vs
  withType _ _ := trivial
  withParent _ := trivial
  withField _ _ := trivial
  hered := hereditary_true

theorem voc_selection (s : Schema) : ∀ (x : Selection) (e : Snap), VocDecomp s (walkSelection s e x) :=
  fun x e => (vocStep s).sels.1 x [] e trivial trivial

theorem voc_document (s : Schema) (e : Snap) (d : Document) (t : Trace) (h : walkDocument s e d = some t) :
    VocDecomp s t :=
  (vocStep s).document trivial d (fun _ _ => trivial) (fun _ _ _ _ => trivial) h

end Gql
