/-
  Lemmas/MergeCompleteTop.lean — completeness of `find_conflicts_within_selection_set` and of the
  rule as a fold over the walk: on a document without fragment cycles, a run of the rule that
  reports nothing has, for every selection set the walk visits, compared every two different
  same-key fields the set collects — except pairs that a fragment spread below the set
  contributes both of (those are the business of the visit to that fragment's own selection set).
-/
import GqlVerif.Lemmas.MergeCompleteStep
import GqlVerif.Thm.C03b
namespace Gql
open Gql.Spec

/-- what a visit to a selection set establishes -/
def TopOK (s : Schema) (d : Document) (parent : Option TypeDef) (sel : List Selection) : Prop :=
  ∀ x y, Mem s d parent sel x → Mem s d parent sel y → keyOf x = keyOf y → x ≠ y →
    SharedLt s d (Rs d sel) x y ∨ ¬ PairBadC s d x y

theorem safe_nil (d : Document) (r1 r2 : Nat) : Safe d [] r1 r2 := by intro p hp; simp at hp

theorem within_complete (s : Schema) (d : Document) (hac : ¬ FragmentCycle d) (fuel : Nat) (fm : FieldMap) (st : MState) (r : Nat)
    (hk : KeyOk fm) (hn : (alKeys fm).Nodup) (hr : FMR d fm r)
    (hnil : (conflictsWithin s d fuel fm st).1 = []) (hns : (conflictsWithin s d fuel fm st).2.stuck = false)
    (hmemo : MemoOK s d [] st.compared) :
    MemoOK s d [] (conflictsWithin s d fuel fm st).2.compared ∧ (conflictsWithin s d fuel fm st).2.visited = st.visited ∧
      ∀ x y, FM fm x → FM fm y → keyOf x = keyOf y → x ≠ y → ¬ PairBadC s d x y := by
  unfold conflictsWithin at hnil hns ⊢
  have okP : ∀ k : Name, StepOk (fun (acc : MRes) (p : AstAndDef × AstAndDef) => pushConflict acc (findConflict s d fuel k p.1 p.2 false acc.2)) :=
    fun k => stepOk_push (fun (p : AstAndDef × AstAndDef) st' => findConflict s d fuel k p.1 p.2 false st')
      (fun p st' hs => stuck_fc s d fuel k p.1 p.2 false st' hs)
  have okK := StepOk.fold (fun (kv : Name × List AstAndDef) => okP kv.1) (fun kv => orderedPairs kv.2)
  obtain ⟨⟨hm, hv⟩, hq⟩ := foldl_inv okK (fun st' => MemoOK s d [] st'.compared ∧ st'.visited = st.visited)
    (fun kv => ∀ p ∈ orderedPairs kv.2, ¬ PairBadC s d p.1 p.2) fm ([], st)
    (by
      intro kv hkv acc hI hn' hs
      exact foldl_inv (okP kv.1) (fun st' => MemoOK s d [] st'.compared ∧ st'.visited = st.visited)
        (fun p => ¬ PairBadC s d p.1 p.2) (orderedPairs kv.2) acc
        (by
          intro p hp acc hI hn' hs
          obtain ⟨hp1, hp2⟩ := mem_orderedPairs kv.2 p hp
          have hnone := pushConflict_nil hn'
          obtain ⟨m', v', q'⟩ := (completeAt s d hac fuel).fc kv.1 p.1 p.2 false acc.2 [] r r _ rfl hnone hs hI.1 (safe_nil d r r)
            (hr p.1 ⟨kv, hkv, hp1⟩) (hr p.2 ⟨kv, hkv, hp2⟩)
          exact ⟨⟨m', v'.trans hI.2⟩, q'⟩)
        hn' hs hI)
    hnil hns ⟨hmemo, rfl⟩
  refine ⟨hm, hv, ?_⟩
  intro x y hx hy hkk hne
  obtain ⟨lx, hlx, hxl, hmx⟩ := fm_alGet hk hn hx
  obtain ⟨ly, hly, hyl, _⟩ := fm_alGet hk hn hy
  have hl : ly = lx := by rw [hkk, hly] at hlx; exact Option.some.inj hlx
  subst hl
  have hpw : ly.Pairwise fun a b => ¬ PairBadC s d a b := (orderedPairs_forall _ ly).1 (hq _ hmx)
  exact (pairwise_mem_ne hpw x hxl y hyl hne).elim id fun h hb => h hb.symm

theorem loop_silent (s : Schema) (d : Document) (fuel : Nat) (c : FieldMap × List Name) : ∀ (names : List Name) (acc : MRes),
    Silent (conflictsWithinSelectionSet.loop s d fuel c names acc) → Silent acc
  | [], _, h => h
  | g :: gs, acc, h => by
      have h1 := runAll_silent (fun f2 => stuck_bf s d fuel g f2 false) gs _ (loop_silent s d fuel c gs _ h)
      exact ⟨(List.append_eq_nil_iff.1 h1.1).1, unstuck_of (stuck_ff s d fuel c.1 g false acc.2) h1.2⟩

theorem loop_complete (s : Schema) (d : Document) (hac : ¬ FragmentCycle d) (fuel : Nat) (fm : FieldMap) (ns : List Name) (r : Nat)
    (hk : KeyOk fm) (hr : FMR d fm r) :
    ∀ (names : List Name) (acc : MRes), (∀ f ∈ names, Dr d f + 1 ≤ r) →
      Silent (conflictsWithinSelectionSet.loop s d fuel (fm, ns) names acc) →
      MemoOK s d [] acc.2.compared → (∀ h ∈ acc.2.visited, FFOK s d fm h false) →
      MemoOK s d [] (conflictsWithinSelectionSet.loop s d fuel (fm, ns) names acc).2.compared ∧
        (∀ f ∈ names, FFOK s d fm f false) ∧ names.Pairwise (fun f g => FragOK s d false f g)
  | [], _, _, _, hm, _ => ⟨hm, fun _ h => (nomatch h), List.Pairwise.nil⟩
  | f1 :: rest, acc, hrk, hsil, hm, hv => by
      have hrest : ∀ f ∈ rest, Dr d f + 1 ≤ r := fun f hf => hrk f (List.mem_cons_of_mem f1 hf)
      have hf1 := hrk f1 List.mem_cons_self
      -- backwards: (B) for `f1`, then (C) for `f1` against the rest, ended silent
      have sy := loop_silent s d fuel (fm, ns) rest _ hsil
      have sx := runAll_silent (fun f2 => stuck_bf s d fuel f1 f2 false) rest _ sy
      obtain ⟨mx, qx, vx⟩ := (completeAt s d hac fuel).ff fm f1 false acc.2 [] r r _ rfl (List.append_eq_nil_iff.1 sx.1).2 sx.2 hk hm
        (safe_nil d r r) hr hf1 (fun h hh _ => hv h hh)
      obtain ⟨⟨my, vy⟩, qy⟩ := runAll_inv (fun f2 => stuck_bf s d fuel f1 f2 false)
        (fun st' => MemoOK s d [] st'.compared ∧ ∀ h ∈ st'.visited, FFOK s d fm h false)
        (fun f2 => FragOK s d false f1 f2) rest _
        (fun f2 hf2 st' hI hs => by
          obtain ⟨m', v', q'⟩ := (completeAt s d hac fuel).bf f1 f2 false st' [] r r _ rfl hs.1 hs.2 hI.1 (safe_nil d r r) hf1 (hrest f2 hf2)
          exact ⟨⟨m', fun h hh => hI.2 h (v' ▸ hh)⟩, q'⟩)
        sy ⟨mx, fun h hh => (vx h hh).elim (hv h) id⟩
      obtain ⟨mr, qr, pr⟩ := loop_complete s d hac fuel fm ns r hk hr rest _ hrest hsil my vy
      exact ⟨mr, List.forall_mem_cons.2 ⟨qx, qr⟩, List.Pairwise.cons qy pr⟩

theorem selset_complete (s : Schema) (d : Document) (hac : ¬ FragmentCycle d) (fuel : Nat) (parent : Option TypeDef)
    (sel : List Selection) (st : MState) (hvis : st.visited = [])
    (hnil : (conflictsWithinSelectionSet s d fuel parent sel st).1 = [])
    (hns : (conflictsWithinSelectionSet s d fuel parent sel st).2.stuck = false)
    (hmemo : MemoOK s d [] st.compared) :
    MemoOK s d [] (conflictsWithinSelectionSet s d fuel parent sel st).2.compared ∧ TopOK s d parent sel := by
  have hsil : Silent (conflictsWithinSelectionSet.loop s d fuel (fieldsAndFragmentNames s parent sel)
      (fieldsAndFragmentNames s parent sel).2 (conflictsWithin s d fuel (fieldsAndFragmentNames s parent sel).1 st)) := ⟨hnil, hns⟩
  have hk := (fafn_facts s d parent sel).1
  have hr : FMR d (fieldsAndFragmentNames s parent sel).1 (Rs d sel) := fafn_rank s d parent sel
  have hnm : ∀ f ∈ (fieldsAndFragmentNames s parent sel).2, Dr d f + 1 ≤ Rs d sel := fafn_name_rank s d parent sel
  have sw := loop_silent s d fuel _ _ _ hsil
  obtain ⟨mw, vw, qw⟩ := within_complete s d hac fuel _ st (Rs d sel) hk (fafn_nodup s parent sel) hr sw.1 sw.2 hmemo
  obtain ⟨ml, ql, pl⟩ := loop_complete s d hac fuel _ _ (Rs d sel) hk hr _ _ hnm hsil mw
    (fun h hh => by rw [vw, hvis] at hh; cases hh)
  refine ⟨ml, fun x y hx hy hkk hne => ?_⟩
  rcases mem_decomp s d parent sel x hx with hx | ⟨f, hf, hx⟩
  · rcases mem_decomp s d parent sel y hy with hy | ⟨g, hg, hy⟩
    · exact Or.inr (qw x y hx hy hkk hne)
    · exact Or.inr (ql g hg x y hx hy hkk)
  · rcases mem_decomp s d parent sel y hy with hy | ⟨g, hg, hy⟩
    · exact Or.inr (fun hb => ql f hf y x hy hx hkk.symm hb.symm)
    · have h1 := hnm f hf
      have h2 := hnm g hg
      by_cases hfg : f = g
      · subst hfg
        exact Or.inl ⟨f, h1, hx, hy⟩
      · rcases pairwise_mem_ne pl f hf g hg hfg with h | h
        · exact (Cross.mono h (by omega)) x y hx hy hkk
        · exact (Cross.mono h.symm (by omega)) x y hx hy hkk

/-- **a silent run has compared everything**: if the rule reports nothing on a document without
    fragment cycles, every visited selection set is `TopOK` -/
theorem silent_topOK (s : Schema) (d : Document) (hq : s.queryType.isSome = true) (hac : ¬ FragmentCycle d)
    (h : ¬ fires .overlappingFieldsCanBeMerged s d) :
    ∀ parent sel, Reg s d parent sel → TopOK s d parent sel := by
  have hnil : (overlappingFieldsCanBeMerged.runOn s d (walkOf s d)) = [] := by
    unfold fires errsOf at h
    simp only [ruleOf, ne_eq, Decidable.not_not] at h
    exact h
  simp only [Rule.runOn, List.append_eq_nil_iff] at hnil
  rintro _ sel ⟨env, hm, rfl⟩
  -- along the run: the memo table stays justified, and each selection-set callback that reports nothing is `TopOK`
  refine (foldl_inv_end (step := overlappingFieldsCanBeMerged.step s d) (S := fun acc => acc.2 = [])
    (fun acc e h => (List.append_eq_nil_iff.1 h).1) (fun acc => MemoOK s d [] (acc.1 : MergeRuleState).compared)
    (fun e => ∀ sel, e.1 = .enter (.selectionSet sel) → TopOK s d e.2.parent sel) (walkOf s d) _ ?_ hnil.1
    (by intro e he; simp [overlappingFieldsCanBeMerged] at he)).2 _ hm sel rfl
  rintro ⟨ev, env'⟩ he acc hmemo hstep
  cases ev with
  | leave n => exact ⟨hmemo, fun _ h => nomatch h⟩
  | enter n =>
    cases n with
    | selectionSet sel0 =>
      have ht := C03.visit_terminates s d hac he
        { compared := acc.1.compared, visited := [], stuck := false, guardHit := false } rfl
      obtain ⟨mc, tc⟩ := selset_complete s d hac (mergeFuel d) env'.parent sel0
        { compared := acc.1.compared, visited := [], stuck := false, guardHit := false } rfl
        (List.map_eq_nil_iff.1 (List.append_eq_nil_iff.1 hstep).2) ht hmemo
      exact ⟨mc, fun sel' he => by cases he; exact tc⟩
    | _ => exact ⟨hmemo, fun _ h => nomatch h⟩

end Gql
