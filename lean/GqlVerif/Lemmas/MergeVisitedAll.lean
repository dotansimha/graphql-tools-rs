/-
  Lemmas/MergeVisitedAll.lean — documents WITH fragment spreads: every field a visited selection
  set collects (directly, through inline fragments, or through any chain of fragment spreads) is
  itself entered by the walk, and its own selection set is visited with exactly the parent type
  the spec collects it on.
-/
import GqlVerif.Lemmas.MergeVisited
namespace Gql
open Gql.Spec

/-- the selection-set callbacks of a trace: current = parent type, declared type conditions, and
    the walk of the items is part of the trace -/
def SSC2 (s : Schema) (tr : Trace) : Prop :=
  ∀ sel env, (Ev.enter (.selectionSet sel), env) ∈ tr →
    env.cur = env.parent ∧ tcKnownSels s sel = true ∧ ∀ ev ∈ walkSelections s env sel, ev ∈ tr

theorem ssc2_selection (s : Schema) : ∀ (x : Selection) (e : Snap), tcKnownSel s x = true → SSC2 s (walkSelection s e x) :=
  fun x e h => (selSets_sels (hereditary_tcKnown s)).1 x [] e (by simp [tcKnownSels, h])

theorem ssc2_walkOf (s : Schema) (d : Document) (htc : TcKnown s d) :
    SSC2 s (walkOf s d) :=
  selSets_walkOf (hereditary_tcKnown s) d htc

/-- a selection set the walk visits, with the type it is selected on -/
def Reg (s : Schema) (d : Document) (parent : Option TypeDef) (sel : List Selection) : Prop :=
  ∃ env, (Ev.enter (.selectionSet sel), env) ∈ walkOf s d ∧ env.parent = parent

theorem reg_fragment (s : Schema) (d : Document) (hq : s.queryType.isSome = true) (nm : Name) (fr : FragDef)
    (h : d.fragByName nm = some fr) : Reg s d (s.typeByName fr.tc) fr.sel := by
  have hm : fr ∈ d.fragments := by
    unfold Document.fragByName at h
    exact List.mem_reverse.1 (List.mem_of_find?_eq_some h)
  have hd := (mem_fragments_iff d fr).1 hm
  obtain ⟨hw, _⟩ := walkOf_defs s d hq
  refine ⟨((Snap.empty.withType s (some (.named fr.tc))).withParent), ?_, ?_⟩
  · rw [hw]
    simp only [List.cons_append, List.mem_cons, List.mem_append, List.mem_flatMap]
    right; left
    refine ⟨.frag fr, hd, ?_⟩
    simp [defTrace, walkDefinition, walkSelectionSet, walkSelectionSetWith]
  · simp [Snap.withParent, Snap.withType, Schema.resolve, Ty.inner]

/-- **every field a visited selection set collects is entered by the walk, and its own selection
    set is visited on the type the spec collects it on** -/
theorem mem_entered (s : Schema) (d : Document) (hq : s.queryType.isSome = true) (htc : TcKnown s d) :
    ∀ n : Nat, (∀ parent sel, Reg s d parent sel → ∀ a ∈ specFields s d n parent sel, Entered s (walkOf s d) a) ∧
      (∀ nm, ∀ a ∈ spreadFields s d n nm, Entered s (walkOf s d) a) := by
  have hssc := ssc2_walkOf s d htc
  have step : ∀ n : Nat, (∀ nm, ∀ a ∈ spreadFields s d n nm, Entered s (walkOf s d) a) →
      ∀ parent sel, Reg s d parent sel → ∀ a ∈ specFields s d n parent sel, Entered s (walkOf s d) a := by
    intro n hsp parent sel ⟨env, hm, hp⟩ a ha
    obtain ⟨hcp, hg, hitems⟩ := hssc sel env hm
    subst hp
    rcases (entered_sels s (spreadFields s d n)).2 sel env hcp hg a ha with ⟨nm, h⟩ | h
    · exact hsp nm a h
    · exact h.mono hitems
  intro n
  induction n with
  | zero =>
    have h0 : ∀ nm, ∀ a ∈ spreadFields s d 0 nm, Entered s (walkOf s d) a := by
      intro nm a ha; simp [spreadFields] at ha
    exact ⟨step 0 h0, h0⟩
  | succ n ih =>
    have hs : ∀ nm, ∀ a ∈ spreadFields s d (n + 1) nm, Entered s (walkOf s d) a := by
      intro nm a ha
      cases hf : d.fragByName nm with
      | none => rw [spreadFields_succ_none s d n nm hf] at ha; simp at ha
      | some fr =>
        rw [spreadFields_succ_some s d n nm fr hf] at ha
        exact ih.1 _ _ (reg_fragment s d hq nm fr hf) a ha
    exact ⟨step (n + 1) hs, hs⟩

theorem reg_sub (s : Schema) (d : Document) (hq : s.queryType.isSome = true) (htc : TcKnown s d)
    (parent : Option TypeDef) (sel : List Selection) (hr : Reg s d parent sel) (a : AstAndDef) (ha : Mem s d parent sel a) :
    Reg s d (subParent s a) a.field.sel ∧ ∃ env, (Ev.enter (.field a.field), env) ∈ walkOf s d := by
  obtain ⟨n, ha⟩ := ha
  obtain ⟨⟨e1, h1⟩, e2, h2, h3⟩ := (mem_entered s d hq htc n).1 parent sel hr a ha
  exact ⟨⟨e2, h2, h3⟩, e1, h1⟩

end Gql
