/-
  Lemmas/MergeDecomp.lean — the collector is complete: every
  field the spec collects from a selection set is either in the field map
  `get_fields_and_fragment_names` returns or contributed by one of the fragment names it returns;
  the map has one entry per response key.
-/
import GqlVerif.Lemmas.MergeCanon
namespace Gql
open Gql.Spec

theorem collectSel_mono (s : Schema) : ∀ (x : Selection) (parent : Option TypeDef) (acc : FieldMap × List Name),
    (∀ a, FM acc.1 a → FM (mergeCollectSel s parent x acc).1 a) ∧ (∀ nm ∈ acc.2, nm ∈ (mergeCollectSel s parent x acc).2) :=
  fun x parent acc => ⟨fun _ h => (collect_map s).1 x parent acc ▸ fm_groupInto_iff.2 (Or.inl h),
    fun nm h => ((mem_collect_names s nm).1 x parent acc).2 (Or.inl h)⟩

theorem fafn_complete (s : Schema) (d : Document) (n : Nat) (parent : Option TypeDef) (sel : List Selection) (a : AstAndDef)
    (h : a ∈ specFields s d n parent sel) :
    FM (fieldsAndFragmentNames s parent sel).1 a ∨ ∃ nm ∈ (fieldsAndFragmentNames s parent sel).2, a ∈ spreadFields s d n nm := by
  unfold fieldsAndFragmentNames
  rw [(collect_map s).2]
  refine (((mem_specFields_iff s _ a).2 sel parent).1 h).imp (fun h => fm_groupInto_iff.2 (Or.inr h)) fun h => ?_
  obtain ⟨nm, hnm, ha⟩ := List.mem_flatMap.1 h
  exact ⟨nm, ((mem_collect_names s nm).2 sel parent _).2 (Or.inr hnm), ha⟩

theorem mem_decomp (s : Schema) (d : Document) (parent : Option TypeDef) (sel : List Selection) (a : AstAndDef)
    (h : Mem s d parent sel a) :
    FM (fieldsAndFragmentNames s parent sel).1 a ∨ ∃ nm ∈ (fieldsAndFragmentNames s parent sel).2, MemFrag s d nm a := by
  obtain ⟨n, h⟩ := h
  rcases fafn_complete s d n parent sel a h with h | ⟨nm, hnm, ha⟩
  · exact Or.inl h
  · exact Or.inr ⟨nm, hnm, n, ha⟩

theorem memFrag_decomp (s : Schema) (d : Document) (nm : Name) (a : AstAndDef) (h : MemFrag s d nm a) :
    ∃ fr, d.fragByName nm = some fr ∧
      (FM (referencedFieldsAndFragmentNames s fr).1 a ∨ ∃ nm2 ∈ (referencedFieldsAndFragmentNames s fr).2, MemFrag s d nm2 a) := by
  obtain ⟨n, h⟩ := h
  match n, h with
  | 0, h => simp [spreadFields] at h
  | n + 1, h =>
    cases hf : d.fragByName nm with
    | none => rw [spreadFields_succ_none s d n nm hf] at h; simp at h
    | some fr =>
      rw [spreadFields_succ_some s d n nm fr hf] at h
      refine ⟨fr, rfl, ?_⟩
      unfold referencedFieldsAndFragmentNames
      rcases fafn_complete s d n _ fr.sel a h with h | ⟨nm2, hnm2, ha⟩
      · exact Or.inl h
      · exact Or.inr ⟨nm2, hnm2, n, ha⟩

theorem memFrag_iff_mem (s : Schema) (d : Document) (nm : Name) (fr : FragDef) (hf : d.fragByName nm = some fr) (a : AstAndDef) :
    MemFrag s d nm a ↔ Mem s d (s.typeByName fr.tc) fr.sel a := by
  constructor
  · rintro ⟨n, h⟩
    match n, h with
    | 0, h => simp [spreadFields] at h
    | n + 1, h =>
      rw [spreadFields_succ_some s d n nm fr hf] at h
      exact ⟨n, h⟩
  · rintro ⟨n, h⟩
    refine ⟨n + 1, ?_⟩
    rw [spreadFields_succ_some s d n nm fr hf]
    exact h

theorem collectSel_nodup (s : Schema) : ∀ (x : Selection) (parent : Option TypeDef) (acc : FieldMap × List Name),
    (alKeys acc.1).Nodup → (alKeys (mergeCollectSel s parent x acc).1).Nodup :=
  fun x parent acc h => (collect_map s).1 x parent acc ▸ nodup_alKeys_alGroup keyOf _ h

theorem fafn_nodup (s : Schema) (parent : Option TypeDef) (sel : List Selection) :
    (alKeys (fieldsAndFragmentNames s parent sel).1).Nodup := by
  unfold fieldsAndFragmentNames
  rw [(collect_map s).2]
  exact nodup_alKeys_alGroup keyOf _ List.nodup_nil

theorem fm_alGet {fm : FieldMap} (hk : KeyOk fm) (hn : (alKeys fm).Nodup) {a : AstAndDef} (h : FM fm a) :
    ∃ l, alGet fm (keyOf a) = some l ∧ a ∈ l ∧ (keyOf a, l) ∈ fm := by
  obtain ⟨kv, hkv, ha⟩ := h
  have hkey : keyOf a = kv.1 := hk kv hkv a ha
  refine ⟨kv.2, ?_, ha, ?_⟩
  · rw [hkey]; exact alGet_of_mem fm hn kv.1 kv.2 hkv
  · rw [hkey]; exact hkv

end Gql
