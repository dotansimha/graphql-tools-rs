/-
  Lemmas/MergeSpecFF.lean — on field lists without fragment spreads: the spec's test on two
  same-key fields (`specTest`) obeys the recursion of the rule's pairwise test `PCb`, so a conflict
  the rule finds is a failure of the spec's test; and FieldsInSetCanMerge fails somewhere among a
  list and its descendants (`Desc`) exactly when `PCb` finds a conflict within one of them.
-/
import GqlVerif.Lemmas.MergeFF
import GqlVerif.Thm.C05
namespace Gql
open Gql.Spec

theorem subFields_ff (s : Schema) (d : Document) (fuel : Nat) (a : AstAndDef) (ha : ffOf a) :
    subFields s d fuel a = subOf s a := by
  unfold subFields subOf specFields
  exact specFieldsWith_ff s _ _ _ _ ha

theorem allPairs_iff (p : AstAndDef → AstAndDef → Bool) : ∀ L : List AstAndDef,
    allPairs p L = true ↔ L.Pairwise (fun a b => keyOf a = keyOf b → p a b = true)
  | [] => by simp [allPairs]
  | a :: L => by
      simp only [allPairs, Bool.and_eq_true, List.all_eq_true, Bool.or_eq_true, bne_iff_ne, ne_eq,
        List.pairwise_cons, allPairs_iff p L, keyOf]
      constructor
      · rintro ⟨h1, h2⟩
        exact ⟨fun b hb hk => (h1 b hb).resolve_left (fun hne => hne hk), h2⟩
      · rintro ⟨h1, h2⟩
        refine ⟨fun b hb => ?_, h2⟩
        by_cases hk : a.field.responseKey = b.field.responseKey
        · exact Or.inr (h1 b hb hk)
        · exact Or.inl hk

theorem allPairs_congr' (p q : AstAndDef → AstAndDef → Bool) (L : List AstAndDef)
    (h : ∀ a ∈ L, ∀ b ∈ L, p a b = q a b) : allPairs p L = allPairs q L := by
  rw [Bool.eq_iff_iff, allPairs_iff, allPairs_iff]
  exact ⟨fun hp => hp.imp_of_mem fun ha hb hab hk => h _ ha _ hb ▸ hab hk,
    fun hq => hq.imp_of_mem fun ha hb hab hk => (h _ ha _ hb).symm ▸ hab hk⟩

theorem typeConflictB_iff (s : Schema) (a b : AstAndDef) : typeConflictB s a b = !typesAgree s a b := by
  unfold typeConflictB typesAgree
  cases a.fdef <;> cases b.fdef <;> simp [C05.typeConflict_iff]

theorem meOf_false (a b : AstAndDef) : meOf false a b = !parentsMayCoincide a b := by
  simp [meOf, parentsMayCoincide]

/-- the test the spec applies to one pair of same-key fields of a set, at fuel `n` -/
def pairOk (s : Schema) (d : Document) (sf n : Nat) (a b : AstAndDef) : Bool :=
  sameResponseShape s d sf n a b &&
    (if parentsMayCoincide a b then
      a.field.name == b.field.name && identicalArguments a.field.args b.field.args &&
        fieldsInSetCanMerge s d sf n (subFields s d sf a ++ subFields s d sf b)
     else true)

theorem cm_succ (s : Schema) (d : Document) (sf n : Nat) (F : List AstAndDef) :
    fieldsInSetCanMerge s d sf (n + 1) F = allPairs (pairOk s d sf n) F := rfl

theorem srs_succ (s : Schema) (d : Document) (sf n : Nat) (a b : AstAndDef) :
    sameResponseShape s d sf (n + 1) a b =
      (typesAgree s a b && allPairs (sameResponseShape s d sf n) (subFields s d sf a ++ subFields s d sf b)) := rfl

theorem srs_false_iff (s : Schema) (d : Document) (sf n : Nat) (a b : AstAndDef) :
    sameResponseShape s d sf (n + 1) a b = false ↔
      typesAgree s a b = false ∨ allPairs (sameResponseShape s d sf n) (subFields s d sf a ++ subFields s d sf b) = false := by
  rw [srs_succ, Bool.and_eq_false_iff]

theorem pairOk_false_iff (s : Schema) (d : Document) (sf n : Nat) (a b : AstAndDef) :
    pairOk s d sf n a b = false ↔
      sameResponseShape s d sf n a b = false ∨ parentsMayCoincide a b = true ∧
        ((a.field.name == b.field.name) = false ∨ identicalArguments a.field.args b.field.args = false ∨
          fieldsInSetCanMerge s d sf n (subFields s d sf a ++ subFields s d sf b) = false) := by
  rw [pairOk, Bool.and_eq_false_iff]
  cases parentsMayCoincide a b
  · simp
  · simp only [if_true, Bool.and_eq_false_iff, true_and, or_assoc]

theorem allPairs_false_of_pairwise (p : AstAndDef → AstAndDef → Bool) (L : List AstAndDef)
    (h : ¬ L.Pairwise (fun a b => keyOf a = keyOf b → p a b = true)) : allPairs p L = false :=
  Bool.eq_false_iff.2 fun h' => h ((allPairs_iff p L).1 h')

theorem allPairs_false_cross (p : AstAndDef → AstAndDef → Bool) (A B : List AstAndDef) (x y : AstAndDef)
    (hx : x ∈ A) (hy : y ∈ B) (hk : keyOf x = keyOf y) (hp : p x y = false) : allPairs p (A ++ B) = false :=
  allPairs_false_of_pairwise _ _ fun hpw => by
    have := (List.pairwise_append.1 hpw).2.2 x hx y hy hk
    rw [hp] at this; cases this

theorem allPairs_false_mono {p q : AstAndDef → AstAndDef → Bool} (h : ∀ a b, p a b = false → q a b = false)
    {L : List AstAndDef} (hL : allPairs p L = false) : allPairs q L = false := by
  refine allPairs_false_of_pairwise q L fun hq => ?_
  rw [(allPairs_iff p L).2 (hq.imp fun {a b} hab hk => by
    cases hp : p a b with
    | true => rfl
    | false => rw [h a b hp] at hab; exact absurd (hab hk) Bool.false_ne_true)] at hL
  cases hL

theorem pcFlat_true (s : Schema) (a b : AstAndDef) : pcFlat s true a b = !typesAgree s a b := by
  simp [pcFlat, meOf, typeConflictB_iff]

theorem pcFlat_false_iff (s : Schema) (a b : AstAndDef) :
    pcFlat s false a b = true ↔ typesAgree s a b = false ∨ parentsMayCoincide a b = true ∧
      ((a.field.name == b.field.name) = false ∨ identicalArguments a.field.args b.field.args = false) := by
  simp only [pcFlat, meOf_false, typeConflictB_iff, C05.sameArguments_eq, bne, Bool.or_eq_true, Bool.and_eq_true,
    Bool.not_eq_true', Bool.not_not]
  rw [← and_or_left, or_comm]

theorem PCb_iff (s : Schema) (pe : Bool) {a : AstAndDef} (b : AstAndDef) (ha : ffOf a) :
    PCb s pe a b = true ↔ pcFlat s pe a b = true ∨
      ∃ x ∈ subOf s a, ∃ y ∈ subOf s b, keyOf x = keyOf y ∧ PCb s (meOf pe a b) x y = true := by
  rw [PCb_eq s pe a b ha, Bool.or_eq_true, crossAny_iff]

/-- the spec's test for two same-key fields under the rule's flag: SameResponseShape alone when the parents
    are known to differ, else the whole pair test of FieldsInSetCanMerge.  It obeys the recursion of `PCb`
    (`PCb_iff`), with all pairs of the merged sub-selections in place of the cross pairs. -/
def specTest (s : Schema) (d : Document) (sf n : Nat) : Bool → AstAndDef → AstAndDef → Bool
  | true => sameResponseShape s d sf n
  | false => pairOk s d sf n

theorem specTest_weaken {s : Schema} {d : Document} {sf n : Nat} {pe : Bool} {a b : AstAndDef}
    (h : specTest s d sf n pe a b = false) : specTest s d sf n false a b = false := by
  cases pe
  · exact h
  · exact (pairOk_false_iff s d sf n a b).2 (Or.inl h)

theorem specTest_succ_false {s : Schema} {d : Document} {sf m : Nat} {pe : Bool} {a b : AstAndDef}
    (h : pcFlat s pe a b = true ∨
      allPairs (specTest s d sf m (meOf pe a b)) (subFields s d sf a ++ subFields s d sf b) = false) :
    specTest s d sf (m + 1) pe a b = false := by
  cases pe
  · refine (pairOk_false_iff s d sf (m + 1) a b).2 ?_
    rcases h with hf | hall
    · rcases (pcFlat_false_iff s a b).1 hf with ht | ⟨hc, hna⟩
      · exact Or.inl ((srs_false_iff s d sf m a b).2 (Or.inl ht))
      · exact Or.inr ⟨hc, hna.imp_right Or.inl⟩
    · rw [meOf_false] at hall
      cases hc : parentsMayCoincide a b <;> rw [hc] at hall
      · exact Or.inl ((srs_false_iff s d sf m a b).2 (Or.inr hall))
      · exact Or.inr ⟨rfl, Or.inr (Or.inr hall)⟩
  · exact (srs_false_iff s d sf m a b).2 (h.imp_left fun hf => by rw [pcFlat_true] at hf; simpa using hf)

theorem specTest_false_cases {s : Schema} {d : Document} {sf n : Nat} {pe : Bool} {a b : AstAndDef}
    (h : specTest s d sf n pe a b = false) :
    pcFlat s pe a b = true ∨ ∃ m, n = m + 1 ∧
      allPairs (specTest s d sf m (meOf pe a b)) (subFields s d sf a ++ subFields s d sf b) = false := by
  have shape : sameResponseShape s d sf n a b = false → typesAgree s a b = false ∨ ∃ m, n = m + 1 ∧
      allPairs (sameResponseShape s d sf m) (subFields s d sf a ++ subFields s d sf b) = false := by
    intro h
    cases n with
    | zero => cases h
    | succ m => exact ((srs_false_iff s d sf m a b).1 h).imp_right fun h => ⟨m, rfl, h⟩
  cases pe
  · rcases (pairOk_false_iff s d sf n a b).1 h with hs | ⟨hc, hn | hn | hcm⟩
    · rcases shape hs with ht | ⟨m, rfl, hall⟩
      · exact Or.inl ((pcFlat_false_iff s a b).2 (Or.inl ht))
      · refine Or.inr ⟨m, rfl, ?_⟩
        cases meOf false a b
        · exact allPairs_false_mono (fun x y => specTest_weaken (pe := true)) hall
        · exact hall
    · exact Or.inl ((pcFlat_false_iff s a b).2 (Or.inr ⟨hc, Or.inl hn⟩))
    · exact Or.inl ((pcFlat_false_iff s a b).2 (Or.inr ⟨hc, Or.inr hn⟩))
    · cases n with
      | zero => cases hcm
      | succ m =>
        refine Or.inr ⟨m, rfl, ?_⟩
        rw [meOf_false, hc]
        exact hcm
  · exact (shape h).imp_left fun ht => by rw [pcFlat_true, ht]; rfl

theorem pc_to_specTest (s : Schema) (d : Document) (sf : Nat) :
    ∀ (D : Nat) (pe : Bool) (a b : AstAndDef), depOf a < D → ffOf a → ffOf b → PCb s pe a b = true →
      ∀ n, D ≤ n → specTest s d sf n pe a b = false := by
  intro D
  induction D with
  | zero => exact fun _ a b hD => absurd hD (Nat.not_lt_zero _)
  | succ D ih =>
    intro pe a b hD ha hb h n hn
    obtain ⟨m, rfl⟩ : ∃ m, n = m + 1 := Nat.exists_eq_add_one_of_ne_zero (by rintro rfl; cases hn)
    refine specTest_succ_false (((PCb_iff s pe b ha).1 h).imp_right fun ⟨x, hx, y, hy, hk, hp⟩ => ?_)
    rw [subFields_ff s d sf a ha, subFields_ff s d sf b hb]
    exact allPairs_false_cross _ _ _ x y hx hy hk
      (ih _ x y (Nat.lt_of_lt_of_le (mem_subOf s a x ha hx).1 (Nat.le_of_lt_succ hD)) (mem_subOf s a x ha hx).2
        (mem_subOf s b y hb hy).2 hp m (Nat.le_of_succ_le_succ hn))

theorem pc_to_spec (s : Schema) (d : Document) (sf : Nat) :
    ∀ (D : Nat) (a b : AstAndDef), depOf a ≤ D → ffOf a → ffOf b →
      (PCb s true a b = true → ∀ n, D + 1 ≤ n → sameResponseShape s d sf n a b = false) ∧
      (PCb s false a b = true → ∀ n, D + 1 ≤ n → pairOk s d sf n a b = false) :=
  fun D a b hD ha hb => ⟨pc_to_specTest s d sf (D + 1) true a b (Nat.lt_succ_of_le hD) ha hb,
    pc_to_specTest s d sf (D + 1) false a b (Nat.lt_succ_of_le hD) ha hb⟩

/-- `F'` is `F` or the collected sub-selection of a field of `F`, or of a field of that, ... -/
inductive Desc (s : Schema) : List AstAndDef → List AstAndDef → Prop
  | refl (F : List AstAndDef) : Desc s F F
  | step {F F' : List AstAndDef} {a : AstAndDef} : a ∈ F → Desc s (subOf s a) F' → Desc s F F'

/-- the rule finds a conflict between two same-key fields of the list -/
def WBad (s : Schema) (F : List AstAndDef) : Prop :=
  ¬ F.Pairwise (fun a b => keyOf a = keyOf b → PCb s false a b = false)

/-- ... somewhere below field `a` -/
def DW (s : Schema) (a : AstAndDef) : Prop := ∃ F', Desc s (subOf s a) F' ∧ WBad s F'

theorem DW_of_mem {s : Schema} {a x : AstAndDef} (hx : x ∈ subOf s a) (h : DW s x) : DW s a := by
  obtain ⟨F', hd, hw⟩ := h
  exact ⟨F', .step hx hd, hw⟩

theorem not_pairwise_append {α : Type} {R : α → α → Prop} {A B : List α} (h : ¬ (A ++ B).Pairwise R) :
    ¬ A.Pairwise R ∨ ¬ B.Pairwise R ∨ ∃ x ∈ A, ∃ y ∈ B, ¬ R x y := by
  refine Classical.byContradiction fun hc => h ?_
  rw [List.pairwise_append]
  refine ⟨Classical.byContradiction fun h1 => hc (Or.inl h1),
    Classical.byContradiction fun h2 => hc (Or.inr (Or.inl h2)), fun x hx y hy => ?_⟩
  exact Classical.byContradiction fun h3 => hc (Or.inr (Or.inr ⟨x, hx, y, hy, h3⟩))

theorem within_to_W (s : Schema) (q : AstAndDef → AstAndDef → Bool) (A : List AstAndDef)
    (h : ¬ A.Pairwise (fun a b => keyOf a = keyOf b → q a b = true))
    (hq : ∀ x ∈ A, ∀ y ∈ A, q x y = false → PCb s false x y = true ∨ DW s x ∨ DW s y) :
    WBad s A ∨ ∃ x ∈ A, DW s x := by
  refine Classical.byContradiction fun hc => h ?_
  have hW : A.Pairwise (fun a b => keyOf a = keyOf b → PCb s false a b = false) :=
    Classical.byContradiction fun hw => hc (Or.inl hw)
  have hD : ∀ x ∈ A, ¬ DW s x := fun x hx hd => hc (Or.inr ⟨x, hx, hd⟩)
  refine hW.imp_of_mem ?_
  intro x y hx hy hxy hk
  cases hqv : q x y with
  | true => rfl
  | false =>
    rcases hq x hx y hy hqv with h1 | h1 | h1
    · rw [hxy hk] at h1; cases h1
    · exact absurd h1 (hD x hx)
    · exact absurd h1 (hD y hy)

theorem specTest_to_pc (s : Schema) (d : Document) (sf : Nat) :
    ∀ (n : Nat) (pe : Bool) (a b : AstAndDef), ffOf a → ffOf b → specTest s d sf n pe a b = false →
      PCb s pe a b = true ∨ DW s a ∨ DW s b := by
  intro n
  induction n using Nat.strongRecOn with | _ n ih => ?_
  intro pe a b ha hb h
  rcases specTest_false_cases h with hf | ⟨m, rfl, hall⟩
  · exact Or.inl ((PCb_iff s pe b ha).2 (Or.inl hf))
  rw [subFields_ff s d sf a ha, subFields_ff s d sf b hb] at hall
  -- a failing pair within the sub-selection of one field is a conflict below that field
  have below : ∀ c, ffOf c → ¬ (subOf s c).Pairwise (fun x y => keyOf x = keyOf y → specTest s d sf m (meOf pe a b) x y = true) →
      DW s c := by
    intro c hc hnp
    rcases within_to_W s _ (subOf s c) hnp fun x hx y hy hq =>
        ih m (Nat.lt_succ_self m) false x y (mem_subOf s c x hc hx).2 (mem_subOf s c y hc hy).2 (specTest_weaken hq) with hw | ⟨x, hx, hdw⟩
    · exact ⟨_, .refl _, hw⟩
    · exact DW_of_mem hx hdw
  rcases not_pairwise_append (fun hp => by rw [(allPairs_iff _ _).2 hp] at hall; cases hall) with hnp | hnp | ⟨x, hx, y, hy, hxy⟩
  · exact Or.inr (Or.inl (below a ha hnp))
  · exact Or.inr (Or.inr (below b hb hnp))
  · -- a cross pair
    have hk : keyOf x = keyOf y := Classical.byContradiction fun hne => hxy (fun h => absurd h hne)
    have hqv : specTest s d sf m (meOf pe a b) x y = false := Bool.eq_false_iff.2 fun hv => hxy fun _ => hv
    rcases ih m (Nat.lt_succ_self m) _ x y (mem_subOf s a x ha hx).2 (mem_subOf s b y hb hy).2 hqv with h | h | h
    · exact Or.inl ((PCb_iff s pe b ha).2 (Or.inr ⟨x, hx, y, hy, hk, h⟩))
    · exact Or.inr (Or.inl (DW_of_mem hx h))
    · exact Or.inr (Or.inr (DW_of_mem hy h))

theorem spec_to_pc (s : Schema) (d : Document) (sf : Nat) :
    ∀ (n : Nat) (D : Nat) (a b : AstAndDef), depOf a ≤ D → depOf b ≤ D → ffOf a → ffOf b →
      (sameResponseShape s d sf n a b = false → PCb s true a b = true ∨ DW s a ∨ DW s b) ∧
      (pairOk s d sf n a b = false → PCb s false a b = true ∨ DW s a ∨ DW s b) :=
  fun n _ a b _ _ ha hb => ⟨specTest_to_pc s d sf n true a b ha hb, specTest_to_pc s d sf n false a b ha hb⟩

/-- **spec ⇒ rule on a list**: if FieldsInSetCanMerge fails on `F`, the rule finds a conflict in
    `F` or in one of its descendants -/
theorem cm_to_W (s : Schema) (d : Document) (sf n : Nat) (F : List AstAndDef) (hF : ∀ a ∈ F, ffOf a)
    (h : fieldsInSetCanMerge s d sf n F = false) : ∃ F', Desc s F F' ∧ WBad s F' := by
  cases n with
  | zero => cases h
  | succ n =>
    rcases within_to_W s (pairOk s d sf n) F (fun hp => by rw [cm_succ, (allPairs_iff _ _).2 hp] at h; cases h)
        (fun x hx y hy hq => specTest_to_pc s d sf n false x y (hF x hx) (hF y hy) hq) with hw | ⟨x, hx, F', hd, hw⟩
    · exact ⟨F, .refl F, hw⟩
    · exact ⟨F', .step hx hd, hw⟩

theorem W_to_cm (s : Schema) (d : Document) (sf n D : Nat) (F : List AstAndDef) (hF : ∀ a ∈ F, depOf a ≤ D ∧ ffOf a)
    (hn : D + 2 ≤ n) (h : WBad s F) : fieldsInSetCanMerge s d sf n F = false := by
  obtain ⟨m, rfl⟩ : ∃ m, n = m + 1 := Nat.exists_eq_add_one_of_ne_zero (by rintro rfl; cases hn)
  rw [cm_succ]
  refine allPairs_false_of_pairwise _ F fun hall => h (hall.imp_of_mem ?_)
  intro a b ha hb hab hk
  cases hp : PCb s false a b with
  | false => rfl
  | true =>
    have := (pc_to_spec s d sf D a b (hF a ha).1 (hF a ha).2 (hF b hb).2).2 hp m (Nat.le_of_succ_le_succ hn)
    rw [hab hk] at this; cases this

end Gql
