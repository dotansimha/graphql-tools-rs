/-
  Lemmas/CollectSet.lean — which fields CollectFields gathers, as a SET: those reachable from the
  selection set through applicable inline fragments and applicable named fragments (`Gets`), no
  matter in which order the selections come (each named fragment is expanded at most once, at
  whichever spread of it is met first).
-/
import GqlVerif.Thm.C19
namespace Gql
open Gql.Spec

section
variable (s : Schema) (d : Document) (R : TypeDef)

/-- `f` is a field of the selection set, directly or inside inline fragments that apply -/
inductive Direct : List Selection → FieldNode → Prop
  | here {sel : List Selection} {f : FieldNode} : f.toSel ∈ sel → Direct sel f
  | inl {sel sub : List Selection} {pos : Pos} {tc : Option Name} {dirs : List Directive} {f : FieldNode} :
      Selection.inline pos tc dirs sub ∈ sel → Applies s R tc → Direct sub f → Direct sel f

/-- a spread of `n` sits in the selection set, directly or inside inline fragments that apply -/
inductive DirectSpread : List Selection → Name → Prop
  | here {sel : List Selection} {pos : Pos} {n : Name} {dirs : List Directive} : Selection.spread pos n dirs ∈ sel → DirectSpread sel n
  | inl {sel sub : List Selection} {pos : Pos} {tc : Option Name} {dirs : List Directive} {n : Name} :
      Selection.inline pos tc dirs sub ∈ sel → Applies s R tc → DirectSpread sub n → DirectSpread sel n

/-- `f` is gathered from the selection set: through applicable inline fragments and applicable named fragments -/
inductive Gets : List Selection → FieldNode → Prop
  | direct {sel : List Selection} {f : FieldNode} : Direct s R sel f → Gets sel f
  | spread {sel : List Selection} {n : Name} {frag : FragDef} {f : FieldNode} : DirectSpread s R sel n →
      d.fragByName n = some frag → Applies s R (some frag.tc) → Gets frag.sel f → Gets sel f

variable {s d R}

theorem Direct.tail {x : Selection} {sel : List Selection} {f : FieldNode} (h : Direct s R sel f) : Direct s R (x :: sel) f := by
  cases h with
  | here hm => exact .here (List.mem_cons_of_mem _ hm)
  | inl hm ha hd => exact .inl (List.mem_cons_of_mem _ hm) ha hd
theorem DirectSpread.tail {x : Selection} {sel : List Selection} {n : Name} (h : DirectSpread s R sel n) : DirectSpread s R (x :: sel) n := by
  cases h with
  | here hm => exact .here (List.mem_cons_of_mem _ hm)
  | inl hm ha hd => exact .inl (List.mem_cons_of_mem _ hm) ha hd
theorem Gets.tail {x : Selection} {sel : List Selection} {f : FieldNode} (h : Gets s d R sel f) : Gets s d R (x :: sel) f := by
  cases h with
  | direct hd => exact .direct hd.tail
  | spread hs hf ha hg => exact .spread hs.tail hf ha hg

theorem gets_of_collects {sel : List Selection} {vis vis' : List Name} {fs : List FieldNode}
    (h : Collects s d R sel vis fs vis') : ∀ f ∈ fs, Gets s d R sel f := by
  induction h with
  | nil vis => intro f hf; cases hf
  | field _ ih =>
    intro f hf
    rcases List.mem_cons.1 hf with rfl | hf
    · exact .direct (.here List.mem_cons_self)
    · exact (ih f hf).tail
  | spreadVisited _ _ ih | spreadUnknown _ _ _ ih | spreadSkip _ _ _ _ ih | inlineSkip _ _ ih =>
    intro f hf; exact (ih f hf).tail
  | spreadExpand _ hfr ha _ _ ih1 ih2 =>
    intro f hf
    rcases List.mem_append.1 hf with hf | hf
    · exact .spread (.here List.mem_cons_self) hfr ha (ih1 f hf)
    · exact (ih2 f hf).tail
  | inlineExpand ha _ _ ih1 ih2 =>
    intro f hf
    rcases List.mem_append.1 hf with hf | hf
    · cases ih1 f hf with
      | direct hd => exact .direct (.inl List.mem_cons_self ha hd)
      | spread hs hfr ha' hg => exact .spread (.inl List.mem_cons_self ha hs) hfr ha' hg
    · exact (ih2 f hf).tail

/-- what one collection establishes, for completeness -/
structure CollClosed (sel : List Selection) (vis : List Name) (fs : List FieldNode) (vis' : List Name) : Prop where
  mono : ∀ n ∈ vis, n ∈ vis'
  direct : ∀ f, Direct s R sel f → f ∈ fs
  spreads : ∀ n, DirectSpread s R sel n → n ∈ vis'
  frags : ∀ m ∈ vis', m ∉ vis → ∀ frag, d.fragByName m = some frag → Applies s R (some frag.tc) →
    (∀ f, Direct s R frag.sel f → f ∈ fs) ∧ (∀ n, DirectSpread s R frag.sel n → n ∈ vis')

theorem direct_cons {x : Selection} {rest : List Selection} {f : FieldNode} (h : Direct s R (x :: rest) f) :
    (match x with
      | .field pos alias name args dirs sel0 => f = ⟨pos, alias, name, args, dirs, sel0⟩
      | .spread .. => False
      | .inline _ tc _ sub => Applies s R tc ∧ Direct s R sub f) ∨ Direct s R rest f := by
  cases h with
  | here hm =>
    rcases List.mem_cons.1 hm with h | h
    · subst h; exact Or.inl rfl
    · exact Or.inr (.here h)
  | inl hm ha hd =>
    rcases List.mem_cons.1 hm with h | h
    · subst h; exact Or.inl ⟨ha, hd⟩
    · exact Or.inr (.inl h ha hd)

theorem directSpread_cons {x : Selection} {rest : List Selection} {n : Name} (h : DirectSpread s R (x :: rest) n) :
    (match x with
      | .field .. => False
      | .spread _ name _ => n = name
      | .inline _ tc _ sub => Applies s R tc ∧ DirectSpread s R sub n) ∨ DirectSpread s R rest n := by
  cases h with
  | here hm =>
    rcases List.mem_cons.1 hm with h | h
    · subst h; exact Or.inl rfl
    · exact Or.inr (.here h)
  | inl hm ha hd =>
    rcases List.mem_cons.1 hm with h | h
    · subst h; exact Or.inl ⟨ha, hd⟩
    · exact Or.inr (.inl h ha hd)

theorem Direct.not_nil {f : FieldNode} : ¬ Direct s R [] f := by
  intro h
  cases h with
  | here hm => cases hm
  | inl hm _ _ => cases hm

theorem DirectSpread.not_nil {n : Name} : ¬ DirectSpread s R [] n := by
  intro h
  cases h with
  | here hm => cases hm
  | inl hm _ _ => cases hm

theorem not_mem_snoc {α : Type} {a b : α} {l : List α} (h1 : a ∉ l) (h2 : a ≠ b) : a ∉ l ++ [b] :=
  fun h => (List.mem_append.1 h).elim h1 fun h => h2 (List.mem_singleton.1 h)

theorem closed_of_collects {sel : List Selection} {vis vis' : List Name} {fs : List FieldNode}
    (h : Collects s d R sel vis fs vis') : CollClosed (s := s) (d := d) (R := R) sel vis fs vis' := by
  induction h with
  | nil vis =>
    exact ⟨fun n hn => hn, fun f hf => absurd hf Direct.not_nil, fun n hn => absurd hn DirectSpread.not_nil, fun m hm hnm => absurd hm hnm⟩
  | field _ ih =>
    refine ⟨ih.mono, fun f hf => ?_, fun n hn => ih.spreads n ((directSpread_cons hn).resolve_left id), fun m hm hnm frag hfr ha => ?_⟩
    · rcases direct_cons hf with h | h
      · cases h; exact List.mem_cons_self
      · exact List.mem_cons_of_mem _ (ih.direct f h)
    · obtain ⟨a, b⟩ := ih.frags m hm hnm frag hfr ha
      exact ⟨fun f hf => List.mem_cons_of_mem _ (a f hf), b⟩
  | spreadVisited hv _ ih =>
    refine ⟨ih.mono, fun f hf => ih.direct f ((direct_cons hf).resolve_left id), fun n hn => ?_, ih.frags⟩
    rcases directSpread_cons hn with h | h
    · cases h; exact ih.mono _ hv
    · exact ih.spreads n h
  | @spreadUnknown _ name _ _ _ _ _ _ hfr _ ih | @spreadSkip _ name _ _ _ _ _ _ _ hfr hna _ ih =>
    refine ⟨fun n hn => ih.mono n (List.mem_append_left _ hn), fun f hf => ih.direct f ((direct_cons hf).resolve_left id), fun n hn => ?_,
      fun m hm hnm frag hfm ha => ?_⟩
    · rcases directSpread_cons hn with h | h
      · cases h; exact ih.mono _ (List.mem_append_right _ List.mem_cons_self)
      · exact ih.spreads n h
    · by_cases hmn : m = name
      · -- an unknown fragment has no definition; a skipped one is `frag`, which does not apply
        subst hmn; rw [hfr] at hfm
        cases hfm <;> exact absurd ha hna
      · exact ih.frags m hm (not_mem_snoc hnm hmn) frag hfm ha
  | @spreadExpand pos name dirs rest vis fs1 vis1 fs2 vis2 frag0 hv hfr ha0 _ _ ih1 ih2 =>
    refine ⟨fun n hn => ih2.mono n (ih1.mono n (List.mem_append_left _ hn)),
      fun f hf => List.mem_append_right _ (ih2.direct f ((direct_cons hf).resolve_left id)), fun n hn => ?_, fun m hm hnm frag hfm ha => ?_⟩
    · rcases directSpread_cons hn with h | h
      · cases h; exact ih2.mono _ (ih1.mono _ (List.mem_append_right _ List.mem_cons_self))
      · exact ih2.spreads n h
    · by_cases hmn : m = name
      · subst hmn
        rw [hfr] at hfm; cases hfm
        exact ⟨fun f hf => List.mem_append_left _ (ih1.direct f hf), fun n hn => ih2.mono n (ih1.spreads n hn)⟩
      · by_cases hm1 : m ∈ vis1
        · obtain ⟨a, b⟩ := ih1.frags m hm1 (not_mem_snoc hnm hmn) frag hfm ha
          exact ⟨fun f hf => List.mem_append_left _ (a f hf), fun n hn => ih2.mono n (b n hn)⟩
        · obtain ⟨a, b⟩ := ih2.frags m hm hm1 frag hfm ha
          exact ⟨fun f hf => List.mem_append_right _ (a f hf), b⟩
  | inlineSkip hna _ ih =>
    refine ⟨ih.mono, fun f hf => ?_, fun n hn => ?_, ih.frags⟩
    · exact ih.direct f ((direct_cons hf).resolve_left fun h => hna h.1)
    · exact ih.spreads n ((directSpread_cons hn).resolve_left fun h => hna h.1)
  | @inlineExpand pos tc dirs sub rest vis fs1 vis1 fs2 vis2 hap _ _ ih1 ih2 =>
    refine ⟨fun n hn => ih2.mono n (ih1.mono n hn), fun f hf => ?_, fun n hn => ?_, fun m hm hnm frag hfm ha => ?_⟩
    · rcases direct_cons hf with ⟨_, hd⟩ | h
      · exact List.mem_append_left _ (ih1.direct f hd)
      · exact List.mem_append_right _ (ih2.direct f h)
    · rcases directSpread_cons hn with ⟨_, hd⟩ | h
      · exact ih2.mono n (ih1.spreads n hd)
      · exact ih2.spreads n h
    · by_cases hm1 : m ∈ vis1
      · obtain ⟨a, b⟩ := ih1.frags m hm1 hnm frag hfm ha
        exact ⟨fun f hf => List.mem_append_left _ (a f hf), fun n hn => ih2.mono n (b n hn)⟩
      · obtain ⟨a, b⟩ := ih2.frags m hm hm1 frag hfm ha
        exact ⟨fun f hf => List.mem_append_right _ (a f hf), b⟩

theorem collects_of_gets {sel : List Selection} {vis' : List Name} {fs : List FieldNode}
    (h : Collects s d R sel [] fs vis') : ∀ f, Gets s d R sel f → f ∈ fs := by
  have hc := closed_of_collects h
  -- every selection set whose direct fields are in `fs` and whose direct spreads are in `vis'` gathers only collected fields
  have key : ∀ (X : List Selection) (f : FieldNode), Gets s d R X f →
      (∀ g, Direct s R X g → g ∈ fs) → (∀ n, DirectSpread s R X n → n ∈ vis') → f ∈ fs := by
    intro X f hg
    induction hg with
    | direct hd => intro h1 _; exact h1 _ hd
    | spread hs hfr ha _ ih =>
      intro _ h2
      obtain ⟨a, b⟩ := hc.frags _ (h2 _ hs) List.not_mem_nil _ hfr ha
      exact ih a b
  intro f hg
  exact key sel f hg hc.direct hc.spreads

theorem mem_collects_iff {sel : List Selection} {vis' : List Name} {fs : List FieldNode}
    (h : Collects s d R sel [] fs vis') (f : FieldNode) : f ∈ fs ↔ Gets s d R sel f :=
  ⟨gets_of_collects h f, collects_of_gets h f⟩

end
end Gql
