/-
  Lemmas/MergeFinal.lean — from a finite witness (`PairBad`, between two fields a visited
  selection set collects) to a failure of the spec's executable FieldsInSetCanMerge at some fuel,
  for some visited selection set.  Needs: argument names unique per field (so that "identical
  arguments" is symmetric and reflexive), declared inline type conditions.
-/
import GqlVerif.Lemmas.MergeSound
import GqlVerif.Lemmas.MergeVisitedAll
namespace Gql
open Gql.Spec

def ArgsOk (a : AstAndDef) : Prop := (a.field.args.map (·.1)).Nodup

theorem find_by_name (l : List Arg) (hn : (l.map (·.1)).Nodup) (p : Arg) (hp : p ∈ l) (k : Name) (hk : p.1 = k) :
    l.find? (fun q => k == q.1) = some p := by
  subst hk
  rw [← find?_key_of_nodup (·.1) hn hp]
  exact congrArg (List.find? · l) (funext fun q => Bool.beq_comm)

theorem identicalArguments_refl (a : List Arg) (hn : (a.map (·.1)).Nodup) : identicalArguments a a = true := by
  rw [← C05.sameArguments_eq, C05.sameArguments_iff]
  exact ⟨rfl, fun p hp => ⟨p, find_by_name a hn p hp p.1 rfl, rfl⟩⟩

theorem subset_of_nodup_length {l m : List Name} (hl : l.Nodup) (hsub : l ⊆ m) (hlen : m.length ≤ l.length) : m ⊆ l := by
  intro y hy
  apply Classical.byContradiction
  intro hny
  have hsub' : l ⊆ m.erase y := by
    intro x hx
    have hxy : x ≠ y := fun e => hny (e ▸ hx)
    exact (List.mem_erase_of_ne hxy).2 (hsub hx)
  have h1 := hl.length_le_of_subset hsub'
  have h2 : (m.erase y).length = m.length - 1 := by rw [List.length_erase]; simp [hy]
  have h3 : 1 ≤ m.length := List.length_pos_of_mem hy
  omega

theorem identicalArguments_symm (a b : List Arg) (ha : (a.map (·.1)).Nodup) (hb : (b.map (·.1)).Nodup)
    (h : identicalArguments a b = true) : identicalArguments b a = true := by
  rw [← C05.sameArguments_eq, C05.sameArguments_iff] at h ⊢
  obtain ⟨hl, hall⟩ := h
  refine ⟨hl.symm, fun q hq => ?_⟩
  -- every name of `a` is a name of `b`
  have hsub : a.map (·.1) ⊆ b.map (·.1) := by
    intro k hk
    obtain ⟨p, hp, rfl⟩ := List.mem_map.1 hk
    obtain ⟨q', hq', _⟩ := hall p hp
    have hm := List.mem_of_find?_eq_some hq'
    have hk' := List.find?_some hq'
    simp only [beq_iff_eq] at hk'
    exact List.mem_map.2 ⟨q', hm, hk'.symm⟩
  have hsup : b.map (·.1) ⊆ a.map (·.1) := subset_of_nodup_length ha hsub (by simp [hl])
  obtain ⟨p, hp, hpk⟩ := List.mem_map.1 (hsup (List.mem_map.2 ⟨q, hq, rfl⟩))
  refine ⟨p, find_by_name a ha p hp q.1 hpk, ?_⟩
  obtain ⟨q', hq', he⟩ := hall p hp
  have : b.find? (fun x => p.1 == x.1) = some q := find_by_name b hb q hq p.1 hpk.symm
  rw [this] at hq'
  cases hq'
  exact he.symm

theorem identicalArguments_false_symm (a b : List Arg) (ha : (a.map (·.1)).Nodup) (hb : (b.map (·.1)).Nodup)
    (h : identicalArguments a b = false ∨ identicalArguments b a = false) : identicalArguments a b = false := by
  rcases h with h | h
  · exact h
  · cases h' : identicalArguments a b with
    | false => rfl
    | true => rw [identicalArguments_symm a b ha hb h'] at h; cases h

theorem shapesAgree_refl (s : Schema) : ∀ t : Ty, shapesAgree s t t = true
  | .named x => by simp [shapesAgree]
  | .list t => by simp [shapesAgree, shapesAgree_refl s t]
  | .nonNull t => by simp [shapesAgree, shapesAgree_refl s t]

theorem typesAgree_refl (s : Schema) (a : AstAndDef) : typesAgree s a a = true := by
  unfold typesAgree
  cases a.fdef <;> simp [shapesAgree_refl]

theorem allPairs_false_mem (p : AstAndDef → AstAndDef → Bool) (L : List AstAndDef) (a b : AstAndDef)
    (ha : a ∈ L) (hb : b ∈ L) (hne : a ≠ b) (hk : keyOf a = keyOf b) (h1 : p a b = false) (h2 : p b a = false) :
    allPairs p L = false := by
  apply allPairs_false_of_pairwise
  intro hpw
  rcases pairwise_mem_ne hpw a ha b hb hne with h | h
  · have := h hk; rw [h1] at this; cases this
  · have := h hk.symm; rw [h2] at this; cases this

/-- `f sf nf` is false whenever both fuels are large enough -/
def EvF (f : Nat → Nat → Bool) : Prop := ∃ s0 n0, ∀ sf nf, s0 ≤ sf → n0 ≤ nf → f sf nf = false

theorem EvF.const {f : Nat → Nat → Bool} (h : ∀ sf nf, f sf nf = false) : EvF f := ⟨0, 0, fun sf nf _ _ => h sf nf⟩

theorem EvF.mono {f g : Nat → Nat → Bool} (h : EvF f) (hfg : ∀ sf nf, f sf nf = false → g sf nf = false) : EvF g := by
  obtain ⟨s0, n0, hf⟩ := h
  exact ⟨s0, n0, fun sf nf h1 h2 => hfg sf nf (hf sf nf h1 h2)⟩

theorem EvF.shift {f g : Nat → Nat → Bool} (h : EvF f) (hfg : ∀ sf m, f sf m = false → g sf (m + 1) = false) : EvF g := by
  obtain ⟨s0, n0, hf⟩ := h
  refine ⟨s0, n0 + 1, fun sf nf h1 h2 => ?_⟩
  obtain ⟨m, rfl⟩ : ∃ m, nf = m + 1 := Nat.exists_eq_add_one_of_ne_zero (by rintro rfl; cases h2)
  exact hfg sf m (hf sf m h1 (Nat.le_of_succ_le_succ h2))

theorem subFields_mono_le (s : Schema) (d : Document) (a : AstAndDef) {n m : Nat} (h : n ≤ m) :
    subFields s d n a ⊆ subFields s d m a := specFields_mono_le s d _ _ h

theorem evf_allPairs_cross (s : Schema) (d : Document) (q : Nat → Nat → AstAndDef → AstAndDef → Bool) {a b x y : AstAndDef}
    (hx : MemSub s d a x) (hy : MemSub s d b y) (hk : keyOf x = keyOf y) (h : EvF (fun sf nf => q sf nf x y)) :
    EvF (fun sf nf => allPairs (q sf nf) (subFields s d sf a ++ subFields s d sf b)) := by
  obtain ⟨s0, n0, hf⟩ := h
  obtain ⟨nx, hx⟩ := hx
  obtain ⟨ny, hy⟩ := hy
  refine ⟨s0 + nx + ny, n0, fun sf nf h1 h2 => ?_⟩
  have ⟨h0, hx', hy'⟩ : s0 ≤ sf ∧ nx ≤ sf ∧ ny ≤ sf := by omega
  exact allPairs_false_cross _ _ _ x y (subFields_mono_le s d a hx' hx) (subFields_mono_le s d b hy' hy) hk (hf sf nf h0 h2)

theorem evf_pair_nested (s : Schema) (d : Document) {a b x y : AstAndDef} (hp : parentsMayCoincide a b = true)
    (hx : MemSub s d a x) (hy : MemSub s d b y) (hk : keyOf x = keyOf y) (h : EvF (fun sf nf => pairOk s d sf nf x y)) :
    EvF (fun sf nf => pairOk s d sf nf a b) :=
  (evf_allPairs_cross s d (pairOk s d) hx hy hk h).shift fun sf m h =>
    (pairOk_false_iff s d sf (m + 1) a b).2 (Or.inr ⟨hp, Or.inr (Or.inr h)⟩)

theorem pairOk_flat_false (s : Schema) (d : Document) {a b : AstAndDef} (hp : parentsMayCoincide a b = true)
    (h : (a.field.name == b.field.name) = false ∨ identicalArguments a.field.args b.field.args = false) (sf nf : Nat) :
    pairOk s d sf nf a b = false :=
  (pairOk_false_iff s d sf nf a b).2 (Or.inr ⟨hp, h.imp_right Or.inl⟩)

theorem conv_shape (s : Schema) (d : Document) {a b : AstAndDef} (h : ShapeBad s d a b) :
    EvF (fun sf nf => sameResponseShape s d sf nf a b) := by
  induction h with
  | types ht => exact (EvF.const (f := fun _ _ => false) fun _ _ => rfl).shift fun sf m _ => by rw [srs_succ, ht]; rfl
  | nested hx hy hk _ ih =>
    exact (evf_allPairs_cross s d (sameResponseShape s d) hx hy hk ih).shift fun sf m h => by rw [srs_succ, h, Bool.and_false]

theorem conv_pair_shape (s : Schema) (d : Document) {a b : AstAndDef} (h : ShapeBad s d a b) :
    EvF (fun sf nf => pairOk s d sf nf a b) ∧ EvF (fun sf nf => pairOk s d sf nf b a) :=
  ⟨(conv_shape s d h).mono fun sf nf h => by simp [pairOk, h], (conv_shape s d h.symm).mono fun sf nf h => by simp [pairOk, h]⟩

/-- what the conversion needs to know about a field: its own selection set is visited on the
    right type, and its argument names are unique -/
def RegF (s : Schema) (d : Document) (a : AstAndDef) : Prop := Reg s d (subParent s a) a.field.sel ∧ ArgsOk a

/-- argument names are unique on every field the walk enters -/
def ArgsUniq (s : Schema) (d : Document) : Prop :=
  ∀ f env, (Ev.enter (.field f), env) ∈ walkOf s d → (f.args.map (·.1)).Nodup

theorem regF_of_mem (s : Schema) (d : Document) (hq : s.queryType.isSome = true) (htc : TcKnown s d) (hu : ArgsUniq s d)
    (parent : Option TypeDef) (sel : List Selection) (hr : Reg s d parent sel) (a : AstAndDef) (ha : Mem s d parent sel a) :
    RegF s d a := by
  obtain ⟨h1, env, h2⟩ := reg_sub s d hq htc parent sel hr a ha
  exact ⟨h1, hu _ env h2⟩

theorem regF_sub (s : Schema) (d : Document) (hq : s.queryType.isSome = true) (htc : TcKnown s d) (hu : ArgsUniq s d)
    {a x : AstAndDef} (ha : RegF s d a) (hx : MemSub s d a x) : RegF s d x :=
  regF_of_mem s d hq htc hu _ _ ha.1 x hx

theorem conv_pair (s : Schema) (d : Document) (hq : s.queryType.isSome = true) (htc : TcKnown s d) (hu : ArgsUniq s d)
    {a b : AstAndDef} (h : PairBad s d a b) : RegF s d a → RegF s d b →
    EvF (fun sf nf => pairOk s d sf nf a b) ∧ EvF (fun sf nf => pairOk s d sf nf b a) := by
  induction h with
  | shape hs => exact fun _ _ => conv_pair_shape s d hs
  | @name a b hp hn =>
    exact fun _ _ => ⟨.const (pairOk_flat_false s d hp (Or.inl hn)),
      .const (pairOk_flat_false s d ((parentsMayCoincide_comm b a).trans hp) (Or.inl (Bool.beq_comm.trans hn)))⟩
  | @args a b hp hargs =>
    exact fun ra rb => ⟨.const (pairOk_flat_false s d hp (Or.inr (identicalArguments_false_symm _ _ ra.2 rb.2 hargs))),
      .const (pairOk_flat_false s d ((parentsMayCoincide_comm b a).trans hp)
        (Or.inr (identicalArguments_false_symm _ _ rb.2 ra.2 hargs.symm)))⟩
  | @nested a b x y hp hx hy hk _ ih =>
    intro ra rb
    obtain ⟨i1, i2⟩ := ih (regF_sub s d hq htc hu ra hx) (regF_sub s d hq htc hu rb hy)
    exact ⟨evf_pair_nested s d hp hx hy hk i1, evf_pair_nested s d ((parentsMayCoincide_comm b a).trans hp) hy hx hk.symm i2⟩
  | @nestedSwap a b x y hp hx hy hk _ ih =>
    intro ra rb
    obtain ⟨i1, i2⟩ := ih (regF_sub s d hq htc hu rb hy) (regF_sub s d hq htc hu ra hx)
    exact ⟨evf_pair_nested s d hp hx hy hk i2, evf_pair_nested s d ((parentsMayCoincide_comm b a).trans hp) hy hx hk.symm i1⟩

/-- some finite unrolling of FieldsInSetCanMerge - at least as deep as the executable spec's own
    fuel - fails for some selection set of the document -/
def MergeViolatedEx (s : Schema) (d : Document) : Prop :=
  ∃ sf nf, spreadFuelOf d ≤ sf ∧ nestFuelOf d ≤ nf ∧ ∃ sel env, (Ev.enter (.selectionSet sel), env) ∈ walkOf s d ∧
    fieldsInSetCanMerge s d sf nf (specFields s d sf env.parent sel) = false

theorem mergeViolatedEx_of_violated (s : Schema) (d : Document) (h : MergeViolated s d) : MergeViolatedEx s d := by
  obtain ⟨sel, env, hm, hf⟩ := h
  exact ⟨_, _, Nat.le_refl _, Nat.le_refl _, sel, env, hm, hf⟩

theorem violated_of_two (s : Schema) (d : Document) (parent : Option TypeDef) (sel : List Selection) (hr : Reg s d parent sel)
    (a b : AstAndDef) (ha : Mem s d parent sel a) (hb : Mem s d parent sel b) (hne : a ≠ b) (hk : keyOf a = keyOf b)
    (h : EvF (fun sf nf => pairOk s d sf nf a b) ∧ EvF (fun sf nf => pairOk s d sf nf b a)) : MergeViolatedEx s d := by
  obtain ⟨env, hm, rfl⟩ := hr
  obtain ⟨na, ha⟩ := ha
  obtain ⟨nb, hb⟩ := hb
  obtain ⟨⟨s1, n1, f1⟩, s2, n2, f2⟩ := h
  obtain ⟨sf, hsf⟩ : ∃ sf, sf = na + nb + s1 + s2 + spreadFuelOf d := ⟨_, rfl⟩
  obtain ⟨nf, hnf⟩ : ∃ nf, nf = n1 + n2 + nestFuelOf d := ⟨_, rfl⟩
  have ⟨ha', hb', h1, h2, h3, h4, h5, h6⟩ : na ≤ sf ∧ nb ≤ sf ∧ s1 ≤ sf ∧ s2 ≤ sf ∧ spreadFuelOf d ≤ sf ∧
      n1 ≤ nf ∧ n2 ≤ nf ∧ nestFuelOf d ≤ nf + 1 := by omega
  exact ⟨sf, nf + 1, h3, h6, sel, env, hm, allPairs_false_mem _ _ a b (specFields_mono_le s d _ _ ha' ha)
    (specFields_mono_le s d _ _ hb' hb) hne hk (f1 _ _ h1 h4) (f2 _ _ h2 h5)⟩

/-- SameResponseShape failing between two collected fields of a visited set: between two different
    fields the set itself fails; a field paired with itself sends the failure into its own selection set -/
theorem shape_descent (s : Schema) (d : Document) (hq : s.queryType.isSome = true) (htc : TcKnown s d)
    {a b : AstAndDef} (h : ShapeBad s d a b) : ∀ parent sel, Reg s d parent sel → Mem s d parent sel a → Mem s d parent sel b →
      keyOf a = keyOf b → MergeViolatedEx s d := by
  induction h with
  | @types a b ht =>
    intro parent sel hr ha hb hk
    by_cases hne : a = b
    · subst hne; rw [typesAgree_refl] at ht; cases ht
    · exact violated_of_two s d parent sel hr a b ha hb hne hk (conv_pair_shape s d (.types ht))
  | @nested a b x y hx hy hkxy hxy ih =>
    intro parent sel hr ha hb hk
    by_cases hne : a = b
    · subst hne
      exact ih _ _ (reg_sub s d hq htc parent sel hr a ha).1 hx hy hkxy
    · exact violated_of_two s d parent sel hr a b ha hb hne hk (conv_pair_shape s d (.nested hx hy hkxy hxy))

/-- **a failing pair test between two collected fields of a visited selection set makes some
    visited selection set fail FieldsInSetCanMerge** -/
theorem pair_descent (s : Schema) (d : Document) (hq : s.queryType.isSome = true) (htc : TcKnown s d) (hu : ArgsUniq s d)
    {a b : AstAndDef} (h : PairBad s d a b) : ∀ parent sel, Reg s d parent sel → Mem s d parent sel a → Mem s d parent sel b →
      keyOf a = keyOf b → MergeViolatedEx s d := by
  have two : ∀ {a b : AstAndDef}, PairBad s d a b → ∀ parent sel, Reg s d parent sel → Mem s d parent sel a → Mem s d parent sel b →
      a ≠ b → keyOf a = keyOf b → MergeViolatedEx s d := by
    intro a b h parent sel hr ha hb hne hk
    exact violated_of_two s d parent sel hr a b ha hb hne hk
      (conv_pair s d hq htc hu h (regF_of_mem s d hq htc hu parent sel hr a ha) (regF_of_mem s d hq htc hu parent sel hr b hb))
  induction h with
  | @shape a b hs => exact shape_descent s d hq htc hs
  | @name a b hp hn =>
    intro parent sel hr ha hb hk
    by_cases hne : a = b
    · subst hne; simp at hn
    · exact two (.name hp hn) parent sel hr ha hb hne hk
  | @args a b hp hargs =>
    intro parent sel hr ha hb hk
    by_cases hne : a = b
    · subst hne
      have := identicalArguments_refl a.field.args (regF_of_mem s d hq htc hu parent sel hr a ha).2
      rcases hargs with h | h <;> (rw [this] at h; cases h)
    · exact two (.args hp hargs) parent sel hr ha hb hne hk
  | @nested a b x y hp hx hy hkxy hxy ih =>
    intro parent sel hr ha hb hk
    by_cases hne : a = b
    · subst hne
      exact ih _ _ (reg_sub s d hq htc parent sel hr a ha).1 hx hy hkxy
    · exact two (.nested hp hx hy hkxy hxy) parent sel hr ha hb hne hk
  | @nestedSwap a b x y hp hx hy hkxy hyx ih =>
    intro parent sel hr ha hb hk
    by_cases hne : a = b
    · subst hne
      exact ih _ _ (reg_sub s d hq htc parent sel hr a ha).1 hy hx hkxy.symm
    · exact two (.nestedSwap hp hx hy hkxy hyx) parent sel hr ha hb hne hk

/-- **Soundness of the field-merging rule, for documents with fragment spreads**: whenever the
    rule reports, some finite unrolling of the spec's FieldsInSetCanMerge fails for some selection
    set of the document. -/
theorem merge_sound (s : Schema) (d : Document) (hq : s.queryType.isSome = true) (htc : TcKnown s d) (hu : ArgsUniq s d)
    (h : fires .overlappingFieldsCanBeMerged s d) : MergeViolatedEx s d := by
  obtain ⟨sel, env, hm, a, b, ha, hb, hk, hp⟩ := merge_fires_sound s d h
  exact pair_descent s d hq htc hu hp env.parent sel ⟨env, hm, rfl⟩ ha hb hk

end Gql
