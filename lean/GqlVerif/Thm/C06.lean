/-
  Thm/C06.lean — PROPERTY C06: the seven fragment rules fire exactly when their spec condition
  is violated.
-/
import GqlVerif.Lemmas.FragRules
import GqlVerif.Lemmas.WalkAll
import GqlVerif.Lemmas.SitesGood
import GqlVerif.Thm.C09
import GqlVerif.Thm.C18
import GqlVerif.Thm.C13
namespace Gql.C06
open Gql.Spec

/-! ### unique fragment names -/

def GEv.frag? : GEv → Option FragDef
  | .enterFrag f => some f
  | _ => none

theorem frag?_spreads (sps : List SpreadNode) : (sps.map GEv.spread).filterMap GEv.frag? = [] := by
  rw [List.filterMap_map]
  exact List.filterMap_eq_nil_iff.2 fun _ _ => rfl

theorem frag?_defs : ∀ ds : List Definition, (ds.flatMap defGEvs).filterMap GEv.frag? = Document.fragments ds
  | [] => rfl
  | .op o :: ds => by
      simp only [List.flatMap_cons, defGEvs, List.filterMap_append, frag?_spreads, List.nil_append,
        Document.fragments, frag?_defs ds]
  | .frag f :: ds => by
      simp only [List.flatMap_cons, defGEvs, List.cons_append, List.filterMap_cons, List.filterMap_append,
        frag?_spreads, GEv.frag?, List.filterMap_nil, List.nil_append, Document.fragments, frag?_defs ds]

/-- the fragment definitions are entered in document order, each once -/
theorem entered_fragments (d : Document) :
    ((traverseDocument d).filterMap gev).filterMap GEv.frag? = d.fragments := by
  rw [gev_document, List.filterMap_append, frag?_defs]
  simp [GEv.frag?]

def ufnOn (seen : List Name) (f : FragDef) : List Name × List Err := (seen ++ [f.name], [])

/-- 'unique fragment names' reports iff two fragment definitions share a name -/
theorem uniqueFragmentNames_iff (s : Schema) (d : Document) (hq : s.queryType.isSome = true) :
    fires .uniqueFragmentNames s d ↔ DuplicateFragmentName d := by
  show uniqueFragmentNames.runOn s d (walkOf s d) ≠ [] ↔ _
  rw [Rule.runOn_proj uniqueFragmentNames s d (fun e => (gev e).bind GEv.frag?) ufnOn,
    ← List.filterMap_filterMap, walkOf_events s d hq, entered_fragments]
  · have hseen : ∀ (l : List FragDef) (seen : List Name),
        l.foldl (fun seen f => (ufnOn seen f).1) seen = seen ++ l.map (·.name) := by
      intro l
      induction l with
      | nil => intro seen; simp
      | cons f l ih => intro seen; rw [List.foldl_cons, ih, List.map_cons, ufnOn, List.append_assoc]; rfl
    show (d.fragments.foldl (stepOf ufnOn) ([], [])).2 ++
      (dupNames (d.fragments.foldl (stepOf ufnOn) ([], [])).1).map _ ≠ [] ↔ _
    rw [foldl_stepOf_quiet ufnOn _ _ (fun _ _ _ => rfl), hseen, List.nil_append, List.nil_append, ne_eq,
      List.map_eq_nil_iff]
    exact C09.dupNames_ne_nil _
  · intro seen ⟨ev, sn⟩
    cases ev with
    | enter n => cases n <;> exact rfl
    | leave n => cases n <;> exact rfl

/-! ### the stateless rules -/

/-- 'known fragment names' reports iff some spread names a fragment the document does not define -/
theorem knownFragmentNames_iff (s : Schema) (d : Document) :
    fires .knownFragmentNames s d ↔ UndefinedFragmentSpread s d := by
  refine (stateless_fires_iff _ s d _).trans ⟨?_, ?_⟩
  · rintro ⟨⟨ev, env⟩, hmem, hne⟩
    dsimp only at hne
    split at hne
    · next sp =>
      split at hne
      · next hnone => exact ⟨sp, env, hmem, (fragByName_none_iff d sp.name).1 (Option.isNone_iff_eq_none.1 hnone)⟩
      · exact absurd rfl hne
    · exact absurd rfl hne
  · rintro ⟨sp, env, hmem, hnone⟩
    refine ⟨(.enter (.spread sp), env), hmem, ?_⟩
    simp [(fragByName_none_iff d sp.name).2 hnone]

theorem unknownTypeErr_ne_nil (s : Schema) (n : Name) (p : Pos) : unknownTypeErr s n p ≠ [] ↔ ¬ KnownType s n := by
  unfold unknownTypeErr KnownType
  cases h : s.typeByName n <;> by_cases hi : n ∈ introspectionTypeNames <;> simp [hi]

/-- 'known type names' reports iff a type condition or a variable type names a type absent from
    the schema -/
theorem knownTypeNames_iff (s : Schema) (d : Document) (hq : s.queryType.isSome = true) :
    fires .knownTypeNames s d ↔ UnknownTypeReferenced s d := by
  refine (stateless_fires_iff _ s d _).trans ⟨?_, ?_⟩
  · rintro ⟨⟨ev, env⟩, hmem, hne⟩
    dsimp only at hne
    split at hne
    · next f =>
      exact Or.inl ⟨f, (enter_fragmentDef_in_walk s d hq f).1 ⟨env, hmem⟩, (unknownTypeErr_ne_nil s _ _).1 hne⟩
    · next i =>
      split at hne
      · next c htc => exact Or.inr (Or.inl ⟨i, env, c, hmem, htc, (unknownTypeErr_ne_nil s _ _).1 hne⟩)
      · exact absurd rfl hne
    · next v => exact Or.inr (Or.inr ⟨v, ⟨env, hmem⟩, (unknownTypeErr_ne_nil s _ _).1 hne⟩)
    · exact absurd rfl hne
  · rintro (⟨f, hf, hk⟩ | ⟨i, env, c, hmem, htc, hk⟩ | ⟨v, ⟨env, hmem⟩, hk⟩)
    · obtain ⟨env, hmem⟩ := (enter_fragmentDef_in_walk s d hq f).2 hf
      exact ⟨(.enter (.fragmentDef f), env), hmem, (unknownTypeErr_ne_nil s _ _).2 hk⟩
    · refine ⟨(.enter (.inline i), env), hmem, ?_⟩
      simp only [htc]
      exact (unknownTypeErr_ne_nil s _ _).2 hk
    · exact ⟨(.enter (.varDef v), env), hmem, (unknownTypeErr_ne_nil s _ _).2 hk⟩

/-- the error both branches of 'fragments on composite types' raise for a type name -/
theorem nonComposite_ne_nil (s : Schema) (c : Name) (e : Err) :
    (match s.typeByName c with
      | some t => if !t.isComposite then [e] else []
      | none => []) ≠ [] ↔ ∃ t, s.typeByName c = some t ∧ t.isComposite = false := by
  cases s.typeByName c with
  | none => simp
  | some t => cases t.isComposite <;> simp

/-- 'fragments on composite types' reports iff a type condition names a scalar, enum or input type -/
theorem fragmentsOnCompositeTypes_iff (s : Schema) (d : Document) (hq : s.queryType.isSome = true) :
    fires .fragmentsOnCompositeTypes s d ↔ FragmentOnNonComposite s d := by
  refine (stateless_fires_iff _ s d _).trans ⟨?_, ?_⟩
  · rintro ⟨⟨ev, env⟩, hmem, hne⟩
    dsimp only at hne
    split at hne
    · next i =>
      split at hne
      · next c htc =>
        obtain ⟨t, ht, hcomp⟩ := (nonComposite_ne_nil s c _).1 hne
        exact Or.inr ⟨i, env, c, t, hmem, htc, ht, hcomp⟩
      · exact absurd rfl hne
    · next f =>
      obtain ⟨t, ht, hcomp⟩ := (nonComposite_ne_nil s f.tc _).1 hne
      exact Or.inl ⟨f, (enter_fragmentDef_in_walk s d hq f).1 ⟨env, hmem⟩, t, ht, hcomp⟩
    · exact absurd rfl hne
  · rintro (⟨f, hf, t, ht, hcomp⟩ | ⟨i, env, c, t, hmem, htc, ht, hcomp⟩)
    · obtain ⟨env, hmem⟩ := (enter_fragmentDef_in_walk s d hq f).2 hf
      exact ⟨(.enter (.fragmentDef f), env), hmem, (nonComposite_ne_nil s f.tc _).2 ⟨t, ht, hcomp⟩⟩
    · refine ⟨(.enter (.inline i), env), hmem, ?_⟩
      simp only [htc]
      exact (nonComposite_ne_nil s c _).2 ⟨t, ht, hcomp⟩

/-! ### possible fragment spreads -/

theorem snapOk_closed (s : Schema) : EnvClosed s (SnapOk s) where
  withType := fun _ t h => h.withType t
  withParent := fun _ h => h.withParent
  withField := fun _ f h => h.withField f
  withInput := fun _ _ h => h

/-- the test both branches of the rule make on the type of the fragment and the enclosing type -/
theorem notSpreadable_ne_nil (s : Schema) (hn : s.typeNames.Nodup) (a b : TypeDef) (ha : SDef.type a ∈ s)
    (hb : SDef.type b ∈ s) (e : Err) :
    (if a.isComposite && b.isComposite && !doTypesOverlap s a b then [e] else []) ≠ [] ↔
      a.isComposite = true ∧ b.isComposite = true ∧ ¬ TypesOverlap s a b := by
  by_cases hca : a.isComposite = true
  · by_cases hcb : b.isComposite = true
    · have := C18.doTypesOverlap_iff s hn a b ha hb hca hcb
      unfold TypesOverlap
      rw [← this]
      cases doTypesOverlap s a b <;> simp [hca, hcb]
    · simp [hcb]
  · simp [hca]

/-- 'possible fragment spreads' reports iff an inline fragment's type, or the type of the
    fragment a spread names, cannot overlap the enclosing type -/
theorem possibleFragmentSpreads_iff (s : Schema) (d : Document) (hn : s.typeNames.Nodup) :
    fires .possibleFragmentSpreads s d ↔ ImpossibleSpread s d := by
  have hok := allSnap_walkOf (snapOk_closed s) d (SnapOk.empty s)
  refine (stateless_fires_iff _ s d _).trans ⟨?_, ?_⟩
  · rintro ⟨⟨ev, env⟩, hmem, hne⟩
    have henv : SnapOk s env := hok _ hmem
    dsimp only at hne
    split at hne
    · next i =>
      split at hne
      · next fragT parentT hc hp =>
        obtain ⟨h1, h2, hno⟩ := (notSpreadable_ne_nil s hn _ _ (henv.1 _ hc) (henv.2 _ hp) _).1 hne
        exact Or.inl ⟨i, env, fragT, parentT, hmem, hc, hp, h1, h2, hno⟩
      · exact absurd rfl hne
    · next sp =>
      split at hne
      · next frag hf =>
        split at hne
        · next fragT parentT ht hp =>
          obtain ⟨h1, h2, hno⟩ := (notSpreadable_ne_nil s hn _ _ (typeByName_some ht).1 (henv.2 _ hp) _).1 hne
          exact Or.inr ⟨sp, env, frag, fragT, parentT, hmem, hf, ht, hp, h1, h2, hno⟩
        · exact absurd rfl hne
      · exact absurd rfl hne
    · exact absurd rfl hne
  · rintro (⟨i, env, fragT, parentT, hmem, hc, hp, h1, h2, hno⟩ | ⟨sp, env, frag, fragT, parentT, hmem, hf, ht, hp, h1, h2, hno⟩)
    · have henv : SnapOk s env := hok _ hmem
      refine ⟨(.enter (.inline i), env), hmem, ?_⟩
      simp only [hc, hp]
      exact (notSpreadable_ne_nil s hn _ _ (henv.1 _ hc) (henv.2 _ hp) _).2 ⟨h1, h2, hno⟩
    · have henv : SnapOk s env := hok _ hmem
      refine ⟨(.enter (.spread sp), env), hmem, ?_⟩
      simp only [hf, ht, hp]
      exact (notSpreadable_ne_nil s hn _ _ (typeByName_some ht).1 (henv.2 _ hp) _).2 ⟨h1, h2, hno⟩

/-! ### the two graph rules -/

/-- 'no fragment cycles' reports iff some fragment reaches itself through spreads
    (fragment names unique, so that the spread graph is well defined) -/
theorem noFragmentsCycle_iff (s : Schema) (d : Document) (hq : s.queryType.isSome = true)
    (hn : (d.fragments.map (·.name)).Nodup) :
    fires .noFragmentsCycle s d ↔ FragmentCycle d := by
  show noFragmentsCycle.runOn s d (walkOf s d) ≠ [] ↔ _
  rw [cyc_runOn, walkOf_events s d hq, gev_document]
  exact cyc_document d hn

/-- the marking pass of the rule never runs out of fuel -/
theorem used_not_stuck (st : UnusedState) : st.used.stuck = false :=
  dfsList_roots_not_stuck (fragSucc st.fragSpreads) (st.opSpreads ++ st.fragSpreads.flatMap (·.2))
    (fun u _ _ hw => List.mem_append_right _ (alGet_getD_subset _ u hw))
    (unusedFuel st) st.opSpreads (fun _ hy => List.mem_append_left _ hy)
    (by simp [unusedFuel, List.length_flatMap])

/-- a name is marked as used iff an operation spreads it directly or through other fragments -/
theorem used_iff (d : Document) (st : UnusedState)
    (h1 : st.opSpreads = d.operations.flatMap fun o => (recursiveSpreads o.sel).map (·.name))
    (h2 : ∀ n, fragSucc st.fragSpreads n = spreadsOf d n) (n : Name) :
    n ∈ st.used.visited ↔ FragmentUsed d n := by
  have hfun : fragSucc st.fragSpreads = spreadsOf d := funext h2
  show n ∈ (dfsList (fragSucc st.fragSpreads) (unusedFuel st) st.opSpreads {}).visited ↔ _
  rw [mem_dfsList_iff _ _ _ (used_not_stuck st), hfun, h1]
  unfold FragmentUsed
  simp only [List.mem_flatMap, List.mem_map]
  constructor
  · rintro ⟨x, ⟨o, ho, sp, hsp, rfl⟩, hr⟩
    exact ⟨o, ho, sp, hsp, hr⟩
  · rintro ⟨o, ho, sp, hsp, hr⟩
    exact ⟨sp.name, ⟨o, ho, sp, hsp, rfl⟩, hr⟩

/-- 'no unused fragments' reports iff some fragment definition is not reachable from any operation -/
theorem noUnusedFragments_iff (s : Schema) (d : Document) (hq : s.queryType.isSome = true) :
    fires .noUnusedFragments s d ↔ UnusedFragment d := by
  show noUnusedFragments.runOn s d (walkOf s d) ≠ [] ↔ _
  rw [nuf_runOn s d hq]
  obtain ⟨_, hops, hfr⟩ := nufG_defs d {} rfl
  unfold nufReport
  rw [ne_eq, List.map_eq_nil_iff]
  exact unusedNames_ne_nil (·.name) d.fragments (used_iff d _ hops hfr)

theorem codes_C06 (s : Schema) (d : Document) :
    (∀ e ∈ errsOf .uniqueFragmentNames s d, e.code = .uniqueFragmentNames) ∧
    (∀ e ∈ errsOf .knownFragmentNames s d, e.code = .knownFragmentNames) ∧
    (∀ e ∈ errsOf .knownTypeNames s d, e.code = .knownTypeNames) ∧
    (∀ e ∈ errsOf .fragmentsOnCompositeTypes s d, e.code = .fragmentsOnCompositeTypes) ∧
    (∀ e ∈ errsOf .noUnusedFragments s d, e.code = .noUnusedFragments) ∧
    (∀ e ∈ errsOf .noFragmentsCycle s d, e.code = .noFragmentsCycle) ∧
    (∀ e ∈ errsOf .possibleFragmentSpreads s d, e.code = .possibleFragmentSpreads) :=
  ⟨C13.codes s d _ _, C13.codes s d _ _, C13.codes s d _ _, C13.codes s d _ _, C13.codes s d _ _,
   C13.codes s d _ _, C13.codes s d _ _⟩

/-! Non-vacuity and regression witnesses (F4: cycles through nested fields; F5: fragments used only
    by unused fragments; F6: undeclared `__` type names).
    `type Query { a: Int  t: T }  type T { a: Int  t: T }  union U = T  enum E { X }`
    ids: Query=0 Int=6 a=20 t=22 T=24 U=26 E=28 X=40 A=30 B=32 C=34 -/
def exSchema : Schema :=
  [ .type (.object 0 [] [⟨20, [], .named 6⟩, ⟨22, [], .named 24⟩]),
    .type (.object 24 [] [⟨20, [], .named 6⟩, ⟨22, [], .named 24⟩]),
    .type (.union 26 [24]), .type (.enum 28 [40]), .type (.scalar 6) ]
def fld (n : Name) (sel : List Selection) : Selection := .field ⟨1, 1⟩ none n [] [] sel
def spr (n : Name) : Selection := .spread ⟨1, 2⟩ n []
def q (sel : List Selection) : Definition := .op ⟨.shorthand, ⟨0, 0⟩, none, [], [], sel⟩
def frag (n tc : Name) (sel : List Selection) : Definition := .frag ⟨⟨2, 1⟩, n, tc, [], sel⟩

-- { ...A } fragment A on Query { t { t { ...B } } } fragment B on T { t { ...A } }  (cycle through nested fields; wrong type too)
example : fires .noFragmentsCycle exSchema
    [q [spr 30], frag 30 0 [fld 22 [fld 22 [spr 32]]], frag 32 24 [fld 22 [spr 30]]] := by decide
example : ¬ fires .noFragmentsCycle exSchema
    [q [spr 30], frag 30 0 [fld 22 [spr 32], spr 32], frag 32 24 [fld 20 []]] := by decide   -- diamond, no cycle
example : fires .noFragmentsCycle exSchema [q [fld 20 []], frag 30 0 [spr 30]] := by decide    -- self loop
-- { a } fragment A on Query { ...B } fragment B on Query { ...A }: both unused (reachable from no operation)
example : fires .noUnusedFragments exSchema [q [fld 20 []], frag 30 0 [spr 32], frag 32 0 [spr 30]] := by decide
example : ¬ fires .noUnusedFragments exSchema [q [fld 22 [spr 30]], frag 30 24 [spr 32], frag 32 24 [fld 20 []]] := by decide
example : fires .uniqueFragmentNames exSchema [q [spr 30], frag 30 0 [fld 20 []], frag 30 0 [fld 20 []]] := by decide
example : fires .knownFragmentNames exSchema [q [fld 22 [spr 36]]] := by decide
example : fires .knownTypeNames exSchema [q [.inline ⟨1, 3⟩ (some 41) [] [fld 20 []]]] := by decide    -- ... on __Foo (id 41, undeclared)
example : ¬ fires .knownTypeNames exSchema [q [.inline ⟨1, 3⟩ (some 13) [] [fld 20 []]]] := by decide  -- ... on __Type
example : fires .fragmentsOnCompositeTypes exSchema [q [spr 30], frag 30 28 [fld 20 []]] := by decide  -- on an enum
example : fires .possibleFragmentSpreads exSchema [q [spr 30], frag 30 24 [fld 20 []]] := by decide    -- T inside Query
example : ¬ fires .possibleFragmentSpreads exSchema [q [fld 22 [.inline ⟨1, 3⟩ (some 26) [] [spr 30]]], frag 30 24 [fld 20 []]] := by decide -- U inside T, T inside U

end Gql.C06
