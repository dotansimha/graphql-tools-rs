/-
  Thm/C03b.lean — PROPERTY C03, the field-merging rule: on EVERY document without fragment cycles
  (any schema, any fragments and spreads, valid or not) the rule's recursion ends — the model never
  runs out of the fuel `mergeFuel d`, so its `stuck` flag (the model's image of a stack overflow)
  stays clear.  Together with `merge_stuck_witness` this locates finding F16 exactly: the unbounded
  recursion needs a fragment cycle.
-/
import GqlVerif.Lemmas.MergeTerm
import GqlVerif.Thm.C03
namespace Gql.C03
open Gql.Spec

theorem mergeFuel_covers (d : Document) (sel : List Selection) (hsel : selsDepth sel ≤ docDepth d) :
    cK d * (Hs d sel + 1) ≤ mergeFuel d := by
  have h1 := Hs_bound d sel
  have h2 : Hs d sel + 1 ≤ (d.fragments.length + 2) * docDepth d + 1 := by
    have : (d.fragments.length + 2) * docDepth d = (d.fragments.length + 1) * docDepth d + docDepth d := Nat.succ_mul _ _
    omega
  have h3 := Nat.mul_le_mul_left (cK d) h2
  unfold mergeFuel
  unfold cK at h3 ⊢
  omega

theorem visit_terminates (s : Schema) (d : Document) (hac : ¬ FragmentCycle d)
    {sel : List Selection} {env : Snap} (hm : (Ev.enter (.selectionSet sel), env) ∈ walkOf s d) (st : MState)
    (hst : st.stuck = false) : (conflictsWithinSelectionSet s d (mergeFuel d) env.parent sel st).2.stuck = false :=
  selset_terminates s d hac (mergeFuel d) env.parent sel st hst
    (mergeFuel_covers d sel (selset_depth_walk s d hm))

/-- **C03, field-merging rule.**  Without a fragment cycle the rule's recursion always ends. -/
theorem merge_terminates_acyclic (s : Schema) (d : Document) (hq : s.queryType.isSome = true)
    (hac : ¬ FragmentCycle d) : (mergeFinal s d).stuck = false := by
  unfold mergeFinal
  refine foldl_inv_mem (fun acc : overlappingFieldsCanBeMerged.σ × List Err => (acc.1 : MergeRuleState).stuck = false)
    (walkOf s d) _ rfl ?_
  rintro acc ⟨ev, env⟩ he hacc
  cases ev with
  | leave n => exact hacc
  | enter n =>
    cases n with
    | selectionSet sel =>
      have ht := visit_terminates s d hac he
        { compared := acc.1.compared, visited := [], stuck := false, guardHit := false } rfl
      simp only [Rule.step, overlappingFieldsCanBeMerged]
      simp only [hacc, ht, Bool.or_false]
    | _ => exact hacc

/-- the hypothesis is met by documents with fragment spreads: `{ t { ...F } } fragment F on T { t { t } }` -/
example : ¬ FragmentCycle
    [ .op ⟨.shorthand, ⟨0, 0⟩, none, [], [], [tf [.spread ⟨1, 2⟩ 30 []]]⟩,
      .frag ⟨⟨2, 1⟩, 30, 22, [], [tf [tf []]]⟩ ] := by
  rintro ⟨a, b, hb, _⟩
  simp only [spreadsOf, Document.fragments, tf, List.filter_cons, List.filter_nil] at hb
  split at hb <;> simp [recursiveSpreads, recursiveSpreadsSel] at hb

end Gql.C03
