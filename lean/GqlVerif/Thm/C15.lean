/-
  Thm/C15.lean — PROPERTY C15 (operation visitor part): visitors enter/leave every AST node
  exactly once, nested, in list order — for every schema (known names or not) and every document.
  Well-nestedness (`Nested`) is defined here; when the visitor panics is `visit_none_iff`.
-/
import GqlVerif.Lemmas.Visit
import GqlVerif.Lemmas.Traverse
import GqlVerif.Lemmas.Levels
namespace Gql.C15

/-- The callback sequence of the model visitor is the plain pre/post-order traversal of the
    document: independent of the schema `s` and of the context `st` it starts from. -/
theorem visit_events_eq_traverse (s : Schema) (d : Document) (v : V) (st : Stacks)
    (h : visitDocument s d = some v) :
    (v st).2.map Prod.fst = traverseDocument d := by
  have hl := visitDocument_lexical s d
  rw [h] at hl
  obtain ⟨t, ht, hv⟩ := hl st
  rw [hv]
  exact walkDocument_events s _ d t ht

theorem rootTypeName_eq_none (s : Schema) (k : OpKind) :
    rootTypeName s k = none ↔ (k = .query ∨ k = .shorthand) ∧ s.queryType = none := by
  cases k <;> simp [rootTypeName]

theorem visitDefinitions_eq_none (s : Schema) :
    ∀ ds, visitDefinitions s ds = none ↔ ∃ o, Definition.op o ∈ ds ∧ rootTypeName s o.kind = none
  | [] => by simp [visitDefinitions]
  | .frag f :: ds => by simp [visitDefinitions, visitDefinitions_eq_none s ds]
  | .op o :: ds => by
      cases h : rootTypeName s o.kind <;> simp [visitDefinitions, h, visitDefinitions_eq_none s ds]

/-- The walk can only fail to return (`none` = the crate's `query_type().unwrap()` panic) when
    the document has a query/short-hand operation and the schema has no query root object type. -/
theorem visit_none_iff (s : Schema) (d : Document) :
    visitDocument s d = none ↔
      ∃ o, Definition.op o ∈ d ∧ (o.kind = .query ∨ o.kind = .shorthand) ∧ s.queryType = none := by
  simp only [visitDocument, Option.map_eq_none_iff, visitDefinitions_eq_none, rootTypeName_eq_none]

/-- Well-nestedness: a sequence of complete sub-traversals, each `enter n … leave n` with the
    *same* node as payload and a well-nested inside. -/
inductive Nested : List Ev → Prop
  | nil : Nested []
  | node (n : Node) (inner rest : List Ev) :
      Nested inner → Nested rest → Nested (.enter n :: inner ++ .leave n :: rest)

theorem Nested.append {a b : List Ev} (ha : Nested a) (hb : Nested b) : Nested (a ++ b) := by
  induction ha with
  | nil => simpa
  | node n inner rest _ _ _ ih2 =>
    have := Nested.node n inner (rest ++ b) ‹_› ih2
    simpa [List.append_assoc] using this

theorem Nested.wrap (n : Node) {inner : List Ev} (h : Nested inner) :
    Nested (.enter n :: (inner ++ [.leave n])) :=
  Nested.node n inner [] h Nested.nil

theorem Nested.step (k : Nat) : Traversal.Step Nested k where
  nil := Nested.nil
  append := Nested.append
  node n _ h := Nested.wrap n h

theorem nested_values : ∀ vs, Nested (traverseValues vs) := (Nested.step 0).values
theorem nested_objFields : ∀ fs, Nested (traverseObjFields fs) := (Nested.step 0).objFields
theorem nested_selection : ∀ x, Nested (traverseSelection x) := (Nested.step 3).selection (Nat.le_refl 3)

/-- Every callback sequence of the visitor is well nested: each node is entered once and left
    once with the same payload, and everything in between belongs to its children. -/
theorem visit_events_nested (s : Schema) (d : Document) (v : V) (st : Stacks)
    (h : visitDocument s d = some v) : Nested ((v st).2.map Prod.fst) := by
  rw [visit_events_eq_traverse s d v st h]
  exact (Nested.step 6).document (Nat.le_refl 6) d

/-- Siblings are visited in list order: the traversal of a list is the concatenation of the
    traversals of its members (stated for every child list kind). -/
theorem selections_in_order (xs ys : List Selection) :
    traverseSelections (xs ++ ys) = traverseSelections xs ++ traverseSelections ys := by
  simp only [traverseSelections_eq_flatMap, List.flatMap_append]

theorem values_in_order (xs ys : List Value) :
    traverseValues (xs ++ ys) = traverseValues xs ++ traverseValues ys := by
  simp only [traverseValues_eq_flatMap, List.flatMap_append]

theorem arguments_in_order (xs ys : List Arg) :
    traverseArguments (xs ++ ys) = traverseArguments xs ++ traverseArguments ys := by
  simp only [traverseArguments_eq_flatMap, List.flatMap_append]

theorem directives_in_order (xs ys : List Directive) :
    traverseDirectives (xs ++ ys) = traverseDirectives xs ++ traverseDirectives ys := by
  simp only [traverseDirectives_eq_flatMap, List.flatMap_append]

theorem varDefs_in_order (xs ys : List VarDef) :
    traverseVarDefs (xs ++ ys) = traverseVarDefs xs ++ traverseVarDefs ys := by
  simp only [traverseVarDefs_eq_flatMap, List.flatMap_append]

theorem definitions_in_order (xs ys : List Definition) :
    traverseDefinitions (xs ++ ys) = traverseDefinitions xs ++ traverseDefinitions ys := by
  simp only [traverseDefinitions_eq_flatMap, List.flatMap_append]

/-! Non-vacuity: a concrete document over the empty schema is walked (hypothesis satisfiable). -/
example : ∃ v, visitDocument [] [.frag ⟨⟨1, 1⟩, 20, 22, [], [.spread ⟨1, 2⟩ 20 []]⟩] = some v :=
  ⟨_, rfl⟩

end Gql.C15
