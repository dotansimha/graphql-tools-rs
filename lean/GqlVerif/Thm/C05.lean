/-
  Thm/C05.lean — PROPERTY C05, the building blocks: the field-merging rule against the spec's
  FieldsInSetCanMerge (Spec/Merge.lean).  What the comparison of two fields rests on
  (`is_type_conflict`, `is_same_arguments`) agrees with the spec's wording; every error carries the
  rule's code; example documents, among them that of finding F15 (`f15_regression`).  The
  document-level iff is Thm/C05c.lean.
-/
import GqlVerif.Spec.Merge
import GqlVerif.Thm.C13
import GqlVerif.Thm.C18
namespace Gql.C05
open Gql.Spec

/-- `is_type_conflict` (lists first, then non-null) is the negation of the spec's
    SameResponseShape steps 1-3 (non-null first, then lists) -/
theorem typeConflict_iff (s : Schema) : ∀ a b : Ty, isTypeConflict s a b = !shapesAgree s a b
  | .named x, .named y => by
      rw [isTypeConflict, shapesAgree]
      cases (s.isLeafName x || s.isLeafName y) <;> rfl
  | .named _, .list _ | .named _, .nonNull _ | .list _, .named _ | .list _, .nonNull _
  | .nonNull _, .named _ | .nonNull _, .list _ => rfl
  | .list a, .list b => by simp only [isTypeConflict, shapesAgree, typeConflict_iff s a b]
  | .nonNull a, .nonNull b => by simp only [isTypeConflict, shapesAgree, typeConflict_iff s a b]

theorem shapesAgree_comm (s : Schema) : ∀ a b : Ty, shapesAgree s a b = shapesAgree s b a
  | .named x, .named y => by rw [shapesAgree, shapesAgree, Bool.or_comm, BEq.comm]
  | .named _, .list _ | .named _, .nonNull _ | .list _, .named _ | .list _, .nonNull _
  | .nonNull _, .named _ | .nonNull _, .list _ => rfl
  | .list a, .list b => by simp only [shapesAgree, shapesAgree_comm s a b]
  | .nonNull a, .nonNull b => by simp only [shapesAgree, shapesAgree_comm s a b]

/-- `is_same_arguments` is the spec's "identical sets of arguments" as written in Spec/Merge.lean;
    with tree equality of values (C18) it is: same length, and every argument of the first list
    meets, at the first argument of that name in the second, an equal value -/
theorem sameArguments_eq (a b : List Arg) : sameArguments a b = identicalArguments a b := rfl

theorem sameArguments_iff (a b : List Arg) :
    sameArguments a b = true ↔
      a.length = b.length ∧ ∀ p ∈ a, ∃ q, b.find? (fun q => p.1 == q.1) = some q ∧ p.2 = q.2 := by
  simp only [sameArguments, Bool.and_eq_true, beq_iff_eq, List.all_eq_true]
  constructor
  · rintro ⟨hl, h⟩
    refine ⟨hl, fun p hp => ?_⟩
    have := h p hp
    cases hf : b.find? (fun q => p.1 == q.1) with
    | none => simp [hf] at this
    | some q => simp only [hf] at this; exact ⟨q, rfl, (C18.compare_iff_eq p.2 q.2).1 this⟩
  · rintro ⟨hl, h⟩
    refine ⟨hl, fun p hp => ?_⟩
    obtain ⟨q, hq, he⟩ := h p hp
    simp only [hq]
    exact (C18.compare_iff_eq p.2 q.2).2 he

theorem mergeViolated_iff (s : Schema) (d : Document) : MergeViolated s d ↔ mergeViolatedB s d = true := by
  unfold MergeViolated mergeViolatedB
  rw [List.any_eq_true]
  constructor
  · rintro ⟨sel, env, hmem, hf⟩
    exact ⟨_, hmem, by simp [hf]⟩
  · rintro ⟨⟨ev, env⟩, hmem, h⟩
    cases ev with
    | leave n => simp at h
    | enter n =>
      cases n with
      | selectionSet sel => exact ⟨sel, env, hmem, by simpa using h⟩
      | _ => simp at h

theorem codes_C05 (s : Schema) (d : Document) :
    ∀ e ∈ errsOf .overlappingFieldsCanBeMerged s d, e.code = .overlappingFieldsCanBeMerged := C13.codes s d _ _

/-! Witnesses.  `type Query { h: H }  type H { name: String  nn: Int!  self: H }`
    ids: Query=0 String=10 Int=6 h=20 H=22 name=24 nn=26 self=28; aliases g=40 t=42 x=44; fragments F2=50 F3=52 -/
def exSchema : Schema :=
  [ .type (.object 0 [] [⟨20, [], .named 22⟩]),
    .type (.object 22 [] [⟨24, [], .named 10⟩, ⟨26, [], .nonNull (.named 6)⟩, ⟨28, [], .named 22⟩]),
    .type (.scalar 10), .type (.scalar 6) ]
def fld (alias : Option Name) (n : Name) (sel : List Selection) : Selection := .field ⟨1, 1⟩ alias n [] [] sel
def spr (n : Name) : Selection := .spread ⟨1, 2⟩ n []
def q (sel : List Selection) : Definition := .op ⟨.shorthand, ⟨0, 0⟩, none, [], [], sel⟩
def frag (n : Name) (sel : List Selection) : Definition := .frag ⟨⟨2, 1⟩, n, 22, [], sel⟩

-- { h { x: name  x: nn } }: different fields under one key
example : fires .overlappingFieldsCanBeMerged exSchema [q [fld none 20 [fld (some 44) 24 [], fld (some 44) 26 []]]] := by decide +kernel
example : MergeViolated exSchema [q [fld none 20 [fld (some 44) 24 [], fld (some 44) 26 []]]] := by
  rw [mergeViolated_iff]; decide +kernel
-- { h { x: name  x: name } } merges
example : ¬ fires .overlappingFieldsCanBeMerged exSchema [q [fld none 20 [fld (some 44) 24 [], fld (some 44) 24 []]]] := by decide +kernel
-- the conflict sits two levels down, reached through the parents' common key
example : fires .overlappingFieldsCanBeMerged exSchema
    [q [fld none 20 [fld (some 42) 28 [fld (some 44) 24 []], fld (some 42) 28 [fld (some 44) 26 []]]]] := by decide +kernel

-- the repaired order dependence (e97c627): { h { t: self { x: name ...A ...F } } }  A { ...G1 }  F { ...G1 ...G2 }  G1 { nn }  G2 { x: nn }
-- (ids: A=54 F=56 G1=58 G2=60) is reported whichever way F lists its spreads
example : fires .overlappingFieldsCanBeMerged exSchema
    [q [fld none 20 [fld (some 42) 28 [fld (some 44) 24 [], spr 54, spr 56]]],
     frag 54 [spr 58], frag 56 [spr 58, spr 60], frag 58 [fld none 26 []], frag 60 [fld (some 44) 26 []]] := by decide +kernel
example : fires .overlappingFieldsCanBeMerged exSchema
    [q [fld none 20 [fld (some 42) 28 [fld (some 44) 24 [], spr 54, spr 56]]],
     frag 54 [spr 58], frag 56 [spr 60, spr 58], frag 58 [fld none 26 []], frag 60 [fld (some 44) 26 []]] := by decide +kernel

/-- the document of finding F15:
    `{ h { g: self { nn } g: self { ...F2 } t: self { x: name } t: self { ...F2 } } }
     fragment F2 on H { ...F3 }  fragment F3 on H { x: nn }` -/
def f15Doc : Document :=
  [ q [fld none 20 [fld (some 40) 28 [fld none 26 []], fld (some 40) 28 [spr 50],
                    fld (some 42) 28 [fld (some 44) 24 []], fld (some 42) 28 [spr 50]]],
    frag 50 [spr 52], frag 52 [fld (some 44) 26 []] ]

/-- **F15 (repaired).**  FieldsInSetCanMerge fails for this document (`x: name` against `x: nn`
    under the two `t`); before the repair the rule did not report it (the fragments visited while
    the two `g` were compared were skipped when the two `t` were), now it does. -/
theorem f15_regression : MergeViolated exSchema f15Doc ∧ fires .overlappingFieldsCanBeMerged exSchema f15Doc := by
  constructor
  · rw [mergeViolated_iff]; decide +kernel
  · decide +kernel

end Gql.C05
