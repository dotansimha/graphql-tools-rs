/-
  Thm/C14e.lean — PROPERTY C14, permuting the selections within selection sets, ALL 24 rules: with
  the set-level characterisation of CollectFields (`mem_collects_iff`, Lemmas/CollectSet.lean) the
  condition of 'single field subscriptions' is order-free too, the rule that `fires_selrel` leaves out.
  Also: accept/reject under the default plan (`accepted_selrel`).
-/
import GqlVerif.Lemmas.CollectSetRel
namespace Gql.C14
open Gql.Spec

section
variable {s : Schema} {d d' : Document}

/-- **C14, selections, all 24 rules.**  Which rules report is the same for a document and for the
    document with the selections of any of its selection sets reordered, at every depth. -/
theorem fires_selrel_all (hs : C01.SchemaOk s) (hd : C01.DocOk d) (h : DocRel d d')
    (hn : (d.fragments.map (·.name)).Nodup) (hao : AODoc d) (ht : TcKnown s d) (hac : ¬ FragmentCycle d) (r : RuleId) :
    fires r s d ↔ fires r s d' := by
  by_cases h2 : r = .singleFieldSubscriptions
  · subst h2
    rw [C11.singleFieldSubscriptions_iff s d hs.queryRoot hs.typeNames, C11.singleFieldSubscriptions_iff s d' hs.queryRoot hs.typeNames]
    exact ⟨subscription_selrel_mp s hs.typeNames h, subscription_selrel_mp s hs.typeNames h.symm⟩
  · exact fires_selrel hs hd h hn hao ht hac r h2

theorem violates_selrel_all (hs : C01.SchemaOk s) (h : DocRel d d') (hao : AODoc d) (r : RuleId) :
    C01.Violates r s d ↔ C01.Violates r s d' := by
  by_cases h1 : r = .overlappingFieldsCanBeMerged
  · subst h1; exact mergeViolated_selrel s hs.queryRoot h hao
  by_cases h2 : r = .singleFieldSubscriptions
  · subst h2
    exact ⟨subscription_selrel_mp s hs.typeNames h, subscription_selrel_mp s hs.typeNames h.symm⟩
  · exact violates_selrel hs.queryRoot h r h1 h2

/-- **C14, selections, accept/reject** under the default plan, for every document (one with duplicate
    argument names is rejected in every order; otherwise the 24 conditions carry over). -/
theorem accepted_selrel (hs : C01.SchemaOk s) (hd : C01.DocOk d) (hi : C01.NoIntrospectionConditions s d) (h : DocRel d d') :
    validate s d Gen.defaultPlan = some [] ↔ validate s d' Gen.defaultPlan = some [] := by
  have hq := hs.queryRoot
  refine h.docSim.accepted_of_violates hs hd hi .uniqueArgumentNames (violates_selrel hq h _ (by simp) (by simp)) fun hda => ?_
  exact violates_selrel_all hs h ((argsUniq_iff_aoDoc s d hq).1 (C01.argsUniq_of_valid s d hda))

end
end Gql.C14
