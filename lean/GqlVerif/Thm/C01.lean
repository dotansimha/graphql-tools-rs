/-
  Thm/C01.lean — PROPERTIES C01 and C02: with the default plan, a document is accepted iff it
  violates none of the 24 spec conditions (`Violates`), assembled from the per-rule iff theorems
  (C04, C06-C11), the plan algebra (C13) and the generated default plan.

  What stays visible in the statements:
  * the field-merging rule enters through the hypothesis `MergeAgrees`, which C05c proves for
    documents without fragment cycles (`C05.mergeAgrees_acyclic`);
  * `Violates .variablesInAllowedPosition` is the usage rule WITHOUT the allowance for locations
    declaring a default value (F13: such spec-valid documents are rejected).
-/
import GqlVerif.Thm.C03
import GqlVerif.Thm.C04
import GqlVerif.Thm.C05
import GqlVerif.Thm.C08
import GqlVerif.Thm.C10
import GqlVerif.Thm.C11
import GqlVerif.Gen.DefaultPlan
namespace Gql.C01
open Gql.Spec

/-- the spec condition each rule is responsible for -/
def Violates : RuleId → Schema → Document → Prop
  | .uniqueOperationNames => fun _ d => DuplicateOperationName d
  | .loneAnonymousOperation => fun _ d => AnonymousNotAlone d
  | .singleFieldSubscriptions => SubscriptionNotSingleField
  | .knownTypeNames => UnknownTypeReferenced
  | .fragmentsOnCompositeTypes => FragmentOnNonComposite
  | .variablesAreInputTypes => NonInputVariable
  | .leafFieldSelections => LeafSelectionViolated
  | .fieldsOnCorrectType => fun s d => UndefinedFieldSelected s d ∨ TypenameAtSubscriptionRoot d
  | .uniqueFragmentNames => fun _ d => DuplicateFragmentName d
  | .knownFragmentNames => UndefinedFragmentSpread
  | .noUnusedFragments => fun _ d => UnusedFragment d
  | .overlappingFieldsCanBeMerged => MergeViolated
  | .noFragmentsCycle => fun _ d => FragmentCycle d
  | .possibleFragmentSpreads => ImpossibleSpread
  | .noUnusedVariables => UnusedVariable
  | .noUndefinedVariables => UndefinedVariable
  | .knownArgumentNames => UnknownArgumentUsed
  | .uniqueArgumentNames => DuplicateArgument
  | .uniqueVariableNames => fun _ d => DuplicateVariable d
  | .providedRequiredArguments => RequiredArgumentMissing
  | .knownDirectives => KnownDirectivesViolated
  | .variablesInAllowedPosition => BadVariablePosition
  | .valuesOfCorrectType => fun s d => ∃ τ v, (some τ, v) ∈ C08.literalSites s d ∧ ¬ Coercible s τ v
  | .uniqueDirectivesPerLocation => UniqueDirectivesViolated

/-- 'self-contained and well-formed' schema, as far as the theorems need it -/
structure SchemaOk (s : Schema) : Prop where
  queryRoot : s.queryType.isSome = true
  typeNames : s.typeNames.Nodup
  directiveNames : (s.directives.map (·.name)).Nodup
  inputsClosed : InputsClosed s
  argsGood : ArgsGood s

/-- what the parser guarantees about variable types (no `T!!`), and no introspection type used
    as a variable type (the schema text does not declare those; see DESIGN.md) -/
def DocOk (d : Document) : Prop :=
  ∀ o ∈ d.operations, ∀ v ∈ o.vars, v.ty.ok = true ∧ v.ty.inner ∉ introspectionTypeNames

/-- the hypothesis under which the field-merging rule enters (C05) -/
def MergeAgrees (s : Schema) (d : Document) : Prop :=
  fires .overlappingFieldsCanBeMerged s d ↔ MergeViolated s d

/-- a rule other than the field-merging one and the three that need document-level side
    conditions fires iff its spec condition is violated -/
theorem fires_iff_violates_basic (s : Schema) (d : Document) (hs : SchemaOk s) :
    ∀ r : RuleId, r ≠ .overlappingFieldsCanBeMerged → r ≠ .noFragmentsCycle → r ≠ .valuesOfCorrectType →
      (fires r s d ↔ Violates r s d) := by
  intro r h1 h2 h3
  cases r
  · exact C11.uniqueOperationNames_iff s d hs.queryRoot
  · exact C11.loneAnonymous_iff s d hs.queryRoot
  · exact C11.singleFieldSubscriptions_iff s d hs.queryRoot hs.typeNames
  · exact C06.knownTypeNames_iff s d hs.queryRoot
  · exact C06.fragmentsOnCompositeTypes_iff s d hs.queryRoot
  · exact C07.variablesAreInputTypes_iff s d hs.queryRoot
  · exact C04.leafFieldSelections_iff s d
  · exact C04.fieldsOnCorrectType_iff s d hs.queryRoot
  · exact C06.uniqueFragmentNames_iff s d hs.queryRoot
  · exact C06.knownFragmentNames_iff s d
  · exact C06.noUnusedFragments_iff s d hs.queryRoot
  · exact absurd rfl h1
  · exact absurd rfl h2
  · exact C06.possibleFragmentSpreads_iff s d hs.typeNames
  · exact C07.noUnusedVariables_iff s d hs.queryRoot
  · exact C07.noUndefinedVariables_iff s d hs.queryRoot
  · exact C09.knownArgumentNames_iff s d
  · exact C09.uniqueArgumentNames_iff s d
  · exact C07.uniqueVariableNames_iff s d hs.queryRoot
  · exact C09.providedRequiredArguments_iff s d hs.directiveNames
  · exact C10.knownDirectives_iff s d hs.queryRoot hs.directiveNames
  · exact C07.variablesInAllowedPosition_iff_partial s d hs.queryRoot
  · exact absurd rfl h3
  · exact C10.uniqueDirectives_iff s d hs.queryRoot hs.directiveNames

theorem badVarType_violates (s : Schema) (d : Document) (hs : SchemaOk s) (hd : DocOk d) (hvt : ¬ VarTypesGood s d) :
    Violates .knownTypeNames s d ∨ Violates .variablesAreInputTypes s d := by
  have : ∃ o, Definition.op o ∈ d ∧ ∃ v ∈ o.vars, ¬ GoodTy s v.ty :=
    Classical.byContradiction fun hc => hvt fun o ho v hv =>
      Classical.byContradiction fun hg => hc ⟨o, ho, v, hv, hg⟩
  obtain ⟨o, ho, v, hv, hbad⟩ := this
  have ho' := (mem_operations_iff d o).2 ho
  obtain ⟨hok, hni⟩ := hd o ho' v hv
  cases ht : s.typeByName v.ty.inner with
  | none =>
    refine Or.inl (Or.inr (Or.inr ⟨v, (C07.enter_varDef_in_walk s d hs.queryRoot v).2 ⟨o, ho', hv⟩, ?_⟩))
    rintro (h | h)
    · rw [ht] at h; cases h
    · exact hni h
  | some t =>
    cases hi : t.isInput with
    | true => exact absurd ⟨hok, by simp [Schema.isInputName, ht, hi]⟩ hbad
    | false => exact Or.inr ⟨o, ho', v, hv, t, ht, hi⟩

/-- Apart from the merging rule, a rule that fires points at a violated condition and a violated
    condition makes a rule fire, not always its own: a cycle among fragments of which two share a
    name is charged to 'unique fragment names', a literal in a position whose type comes from a
    variable of bad type to the rules about variable types. -/
theorem fires_violates (s : Schema) (d : Document) (hs : SchemaOk s) (hd : DocOk d) (r : RuleId)
    (hr : r ≠ .overlappingFieldsCanBeMerged) :
    (fires r s d → ∃ r', Violates r' s d) ∧ (Violates r s d → ∃ r', fires r' s d) := by
  have of_iff : ∀ {r}, (fires r s d ↔ Violates r s d) →
      (fires r s d → ∃ r', Violates r' s d) ∧ (Violates r s d → ∃ r', fires r' s d) :=
    fun h => ⟨fun hf => ⟨_, h.1 hf⟩, fun hv => ⟨_, h.2 hv⟩⟩
  by_cases h2 : r = .noFragmentsCycle
  · subst h2
    by_cases hn : (d.fragments.map (·.name)).Nodup
    · exact of_iff (C06.noFragmentsCycle_iff s d hs.queryRoot hn)
    · exact ⟨fun _ => ⟨.uniqueFragmentNames, hn⟩,
        fun _ => ⟨.uniqueFragmentNames, (C06.uniqueFragmentNames_iff s d hs.queryRoot).2 hn⟩⟩
  by_cases h3 : r = .valuesOfCorrectType
  · subst h3
    by_cases hvt : VarTypesGood s d
    · exact of_iff (C08.valuesOfCorrectType_iff_wf s d hs.inputsClosed hs.argsGood hvt)
    · rcases badVarType_violates s d hs hd hvt with h | h
      · exact ⟨fun _ => ⟨_, h⟩, fun _ => ⟨_, (C06.knownTypeNames_iff s d hs.queryRoot).2 h⟩⟩
      · exact ⟨fun _ => ⟨_, h⟩, fun _ => ⟨_, (C07.variablesAreInputTypes_iff s d hs.queryRoot).2 h⟩⟩
  exact of_iff (fires_iff_violates_basic s d hs r hr h2 h3)

theorem none_fires_iff (s : Schema) (d : Document) (hs : SchemaOk s) (hd : DocOk d) (hm : MergeAgrees s d) :
    (∀ r, ¬ fires r s d) ↔ (∀ r, ¬ Violates r s d) := by
  constructor
  · intro hno r hv
    by_cases hr : r = .overlappingFieldsCanBeMerged
    · subst hr; exact hno _ (hm.2 hv)
    · obtain ⟨r', hf⟩ := (fires_violates s d hs hd r hr).2 hv
      exact hno r' hf
  · intro hno r hf
    by_cases hr : r = .overlappingFieldsCanBeMerged
    · subst hr; exact hno .overlappingFieldsCanBeMerged (hm.1 hf)
    · obtain ⟨r', hv⟩ := (fires_violates s d hs hd r hr).1 hf
      exact hno r' hv

theorem accepted_iff_none_fires (s : Schema) (d : Document) (hq : s.queryType.isSome = true) :
    validate s d Gen.defaultPlan = some [] ↔ ∀ r, ¬ fires r s d := by
  rw [C03.no_panic s d hq, Option.some.injEq, List.flatMap_eq_nil_iff]
  constructor
  · intro h r hf; exact hf (h r (C13.defaultPlan_complete r))
  · intro h r _
    exact Classical.byContradiction fun hne => h r hne

/-- **C01 ∧ C02** (partial: `MergeAgrees`; `Violates` for variable positions without the
    location-default allowance): the default plan accepts a document iff it violates none of the
    24 conditions. -/
theorem accepted_iff_valid_partial (s : Schema) (d : Document) (hs : SchemaOk s) (hd : DocOk d) (hm : MergeAgrees s d) :
    validate s d Gen.defaultPlan = some [] ↔ ∀ r, ¬ Violates r s d := by
  rw [accepted_iff_none_fires s d hs.queryRoot, none_fires_iff s d hs hd hm]

/-- **C01**: a document that violates none of the conditions is accepted -/
theorem valid_accepted_partial (s : Schema) (d : Document) (hs : SchemaOk s) (hd : DocOk d) (hm : MergeAgrees s d)
    (hv : ∀ r, ¬ Violates r s d) : validate s d Gen.defaultPlan = some [] :=
  (accepted_iff_valid_partial s d hs hd hm).2 hv

/-- **C02**: a document that violates some condition gets at least one error -/
theorem invalid_rejected_partial (s : Schema) (d : Document) (hs : SchemaOk s) (hd : DocOk d) (hm : MergeAgrees s d)
    (r : RuleId) (hv : Violates r s d) : ∃ errs, validate s d Gen.defaultPlan = some errs ∧ errs ≠ [] := by
  refine ⟨_, C03.no_panic s d hs.queryRoot _, fun he => ?_⟩
  have := (accepted_iff_valid_partial s d hs hd hm).1 (by rw [C03.no_panic s d hs.queryRoot, he])
  exact this r hv

/-- soundness needs less: whatever the merging rule does, every OTHER rule that fires points at a
    violated condition (so a rejected valid document can only be blamed on the merging rule) -/
theorem fires_sound (s : Schema) (d : Document) (hs : SchemaOk s) (hd : DocOk d) (r : RuleId)
    (hr : r ≠ .overlappingFieldsCanBeMerged) (hf : fires r s d) : ∃ r', Violates r' s d :=
  (fires_violates s d hs hd r hr).1 hf

end Gql.C01
