/-
  Thm/C14h.lean — PROPERTY C14, argument order (partial): every function of the model that judges a
  whole argument list - the merging rule's `sameArguments` (`is_same_arguments`), provided-required-
  arguments' `missingRequired` (`validate_arguments`), unique-argument-names' duplicate report and
  known-argument-names' per-argument check - gives the same verdict for every permutation of the
  list.  For `sameArguments` this needs the second list to have unique names (with a duplicated name
  `find` takes the first match, which a permutation can change - the same phenomenon as F18); the others
  need nothing.  What is NOT proved here is the lifting through the walk to `validate` for the rules
  that see arguments one callback at a time (values-of-correct-type, the variable rules): that part
  of the argument-permutation rewrite is explored by the metamorphic run.
-/
import GqlVerif.Lemmas.SchemaPerm
import GqlVerif.Thm.C05
import GqlVerif.Thm.C09
namespace Gql.C14
open Gql.Spec

/-- **the merging rule's argument comparison does not depend on the order of either list** -/
theorem sameArguments_perm {a a' b b' : List Arg} (ha : a.Perm a') (hb : b.Perm b') (hn : (b.map (·.1)).Nodup) :
    sameArguments a b = sameArguments a' b' := by
  have hf : ∀ p : Arg, b.find? (fun q => p.1 == q.1) = b'.find? (fun q => p.1 == q.1) := by
    intro p
    have h := find?_perm_of_nodup (fun q : Arg => q.1) hb hn p.1
    have e : (fun q : Arg => p.1 == q.1) = (fun q : Arg => q.1 == p.1) := funext fun q => BEq.comm
    rw [e]; exact h
  unfold sameArguments
  rw [ha.length_eq, hb.length_eq]
  congr 1
  rw [ha.all_eq]
  congr 1
  funext p; rw [hf p]

theorem identicalArguments_perm {a a' b b' : List Arg} (ha : a.Perm a') (hb : b.Perm b') (hn : (b.map (·.1)).Nodup) :
    identicalArguments a b = identicalArguments a' b' := by
  rw [← C05.sameArguments_eq, ← C05.sameArguments_eq]; exact sameArguments_perm ha hb hn

/-- **provided-required-arguments reports the same missing arguments, in the same order** -/
theorem missingRequired_perm {used used' : List Arg} (h : used.Perm used') (defs : List InputValueDef) :
    missingRequired used defs = missingRequired used' defs := by
  unfold missingRequired
  congr 1; funext d; rw [h.any_eq]

/-- **known-argument-names reports the same errors up to order** -/
theorem kaArgCheck_perm {args args' : List Arg} (h : args.Perm args') (slot : KaSlot) :
    (args.flatMap (kaArgCheck slot)).Perm (args'.flatMap (kaArgCheck slot)) :=
  h.flatMap_right _

theorem kaArgCheck_nil_perm {args args' : List Arg} (h : args.Perm args') (slot : KaSlot) :
    args.flatMap (kaArgCheck slot) = [] ↔ args'.flatMap (kaArgCheck slot) = [] := by
  rw [← List.length_eq_zero_iff, ← List.length_eq_zero_iff, (kaArgCheck_perm h slot).length_eq]

/-- **unique-argument-names reports for one order iff it reports for the other** -/
theorem duplicateArgErrors_nil_perm {args args' : List Arg} (h : args.Perm args') (p p' : Pos) :
    duplicateArgErrors p args = [] ↔ duplicateArgErrors p' args' = [] := by
  have key : ∀ l : List Name, dupNames l = [] ↔ l.Nodup := fun l => Decidable.not_iff_not.1 (C09.dupNames_ne_nil l)
  simp only [duplicateArgErrors, List.map_eq_nil_iff]
  rw [key, key]
  exact (h.map (·.1)).nodup_iff

/-- non-vacuity: two orders of three arguments -/
example : sameArguments [(1, .int 1), (2, .bool true), (3, .enum 9)] [(2, .bool true), (3, .enum 9), (1, .int 1)] = true := by decide

end Gql.C14
