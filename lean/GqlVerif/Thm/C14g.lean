/-
  Thm/C14g.lean — PROPERTY C14, renaming operations: accept/reject under the default plan
  is the same for a document and for the document with its operations renamed (`DocRelN`: the name
  of any operation replaced), provided the renaming is consistent - anonymous operations stay
  anonymous, named ones stay named, different names stay different - which is what "consistently
  renaming to fresh names" guarantees; stated as the hypotheses `hanon` and `hdup` about the two
  lists of operation names.  (Nothing but 'unique operation names' and 'lone anonymous operation'
  looks at an operation's name.)
-/
import GqlVerif.Thm.C14f
namespace Gql.C14
open Gql.Spec

/-- `d'` is `d` with some operations renamed -/
inductive DocRelN : Document → Document → Prop
  | refl (d : Document) : DocRelN d d
  | op (o : Operation) (name' : Option Name) (l : Document) : DocRelN (.op o :: l) (.op { o with name := name' } :: l)
  | cons (x : Definition) {l l' : Document} : DocRelN l l' → DocRelN (x :: l) (x :: l')
  | trans {a b c : Document} : DocRelN a b → DocRelN b c → DocRelN a c

section
variable {s : Schema} {d d' : Document}

theorem DocRelN.toVN (h : DocRelN d d') : DocRelVN d d' := by
  induction h with
  | refl d => exact .refl d
  | op o n l => exact .op o n l (.refl _)
  | cons x _ ih => exact .cons x ih
  | trans _ _ ih1 ih2 => exact .trans ih1 ih2

theorem opsLengthN (h : DocRelN d d') : d.operations.length = d'.operations.length := by
  induction h with
  | refl d => rfl
  | op o n l => simp only [Document.operations, List.length_cons]
  | cons x _ ih => cases x <;> simp only [Document.operations, List.length_cons, ih]
  | trans _ _ ih1 ih2 => exact ih1.trans ih2

/-- **C14, renaming operations, accept/reject.**  `hdup`: the renaming neither creates nor removes a duplicate
    operation name (which keeping different names different and equal ones equal guarantees); `hanon`: it keeps anonymous operations anonymous and named ones named. -/
theorem accepted_oprename (hs : C01.SchemaOk s) (hd : C01.DocOk d) (hi : C01.NoIntrospectionConditions s d) (h : DocRelN d d')
    (hdup : DuplicateOperationName d ↔ DuplicateOperationName d')
    (hanon : (∃ o ∈ d.operations, o.name = none) ↔ (∃ o ∈ d'.operations, o.name = none)) :
    validate s d Gen.defaultPlan = some [] ↔ validate s d' Gen.defaultPlan = some [] :=
  h.toVN.docSimS.accepted hs hd hi hdup (by unfold AnonymousNotAlone; rw [hanon, opsLengthN h])

end
end Gql.C14
