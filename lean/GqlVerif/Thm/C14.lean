/-
  Thm/C14.lean — PROPERTY C14 (partial): permuting the top-level definitions of a document changes
  neither which of 23 rules report nor (leaving the field-merging rule aside: C14c) accept/reject.
  Proved on the spec side and transported to the rules by the iff theorems.  Most of the file is the
  `DocSim` library, through which every document rewrite of C14 goes (`DocSim.violates_mp`):
  `DocSim` for a rewrite that may reorder selections (Lemmas/SelPermFinal), `DocSimS` for one that
  leaves the selections as they are, which the field-merging condition and the bookkeeping of
  CollectFields need besides: the permutation of definitions (here), the reordering of variable
  definitions (C14f), the renaming of operations (C14g).
-/
import GqlVerif.Thm.C01
import GqlVerif.Lemmas.SchemaPerm
import GqlVerif.Lemmas.SelPermEvents
namespace Gql.C14
open Gql.Spec

def vdBlock (s : Schema) (e : Snap) (v : VarDef) : Trace :=
  (.enter (.varDef v), e.withInput s (some v.ty))
    :: (match v.default with | some dv => walkValue s (e.withInput s (some v.ty)) dv | none => [])
    ++ [(.leave (.varDef v), e.withInput s (some v.ty))]

theorem walkVarDefs_eq_flatMap (s : Schema) (e : Snap) : ∀ vs, walkVarDefs s e vs = vs.flatMap (vdBlock s e)
  | [] => rfl
  | v :: vs => by
      rw [List.flatMap_cons, ← walkVarDefs_eq_flatMap s e vs]
      simp only [walkVarDefs, vdBlock, List.cons_append, List.append_assoc]
      rfl

theorem mem_defTrace_of_mem_walkOf {s : Schema} {d : Document} (hq : s.queryType.isSome = true) {c : Ev × Snap}
    (hi : c.1.node.isDefinitionLevel = false) (hm : c ∈ walkOf s d) : ∃ x ∈ d, c ∈ defTrace s x := by
  rw [(walkOf_defs s d hq).1] at hm
  simp only [List.cons_append, List.mem_cons, List.mem_append, List.mem_flatMap, List.not_mem_nil, or_false] at hm
  rcases hm with rfl | hm | rfl
  · cases hi
  · exact hm
  · cases hi

theorem mem_walkOf_of_mem_defTrace {s : Schema} {d : Document} (hq : s.queryType.isSome = true) {c : Ev × Snap}
    {x : Definition} (hx : x ∈ d) (hm : c ∈ defTrace s x) : c ∈ walkOf s d := by
  rw [(walkOf_defs s d hq).1]
  exact List.mem_cons_of_mem _ (List.mem_append_left _ (List.mem_flatMap.2 ⟨x, hx, hm⟩))

inductive DefSimS : Definition → Definition → Prop
  | refl (x : Definition) : DefSimS x x
  | op (o : Operation) (n : Option Name) {vs : List VarDef} : o.vars.Perm vs →
      DefSimS (.op o) (.op { o with name := n, vars := vs })

namespace DefSimS
variable {s : Schema} {x y z : Definition}

theorem symm (h : DefSimS x y) : DefSimS y x := by
  cases h with
  | refl => exact .refl x
  | op o n hp => exact .op { o with name := n, vars := _ } o.name hp.symm

theorem trans (h1 : DefSimS x y) (h2 : DefSimS y z) : DefSimS x z := by
  cases h1 with
  | refl => exact h2
  | op o n hp =>
    cases h2 with
    | refl => exact .op o n hp
    | op _ n2 hp2 => exact .op o n2 (hp.trans hp2)

theorem selections (h : DefSimS x y) : x.selections = y.selections := by cases h <;> rfl

theorem mem_defTrace (h : DefSimS x y) {ev : Ev} {env : Snap} (hm : (ev, env) ∈ defTrace s x) :
    (ev, env) ∈ defTrace s y ∨ ∃ o, ev = .enter (.operation o) ∨ ev = .leave (.operation o) := by
  cases h with
  | refl => exact .inl hm
  | op o n hp =>
    simp only [defTrace, walkDefinition] at hm ⊢
    generalize rootTypeName s o.kind = r at hm ⊢
    cases r with
    | none => exact absurd hm List.not_mem_nil
    | some tn =>
      simp only [Option.map_some, Option.getD_some, List.cons_append, List.mem_cons, List.mem_append, List.not_mem_nil,
        or_false, walkVarDefs_eq_flatMap] at hm ⊢
      rcases hm with h | h | h
      · exact .inr ⟨o, .inl (congrArg Prod.fst h)⟩
      · exact .inl (.inr (.inl (h.imp_left (Or.imp_right (hp.flatMap_right _).mem_iff.1))))
      · exact .inr ⟨o, .inr (congrArg Prod.fst h)⟩

end DefSimS

/-- `fragments` and `depth` are what the fuel of FieldsInSetCanMerge is computed from. -/
structure DocSimS (d d' : Document) : Prop where
  defs : Cover DefSimS d d'
  defs' : Cover (flip DefSimS) d' d
  fragByName : d.fragByName = d'.fragByName
  fragments : d.fragments.Perm d'.fragments
  depth : docDepth d = docDepth d'

theorem collects_fragByName {s : Schema} {d d' : Document} (hfb : d.fragByName = d'.fragByName) {R : TypeDef}
    {sel : List Selection} {vis vis' : List Name} {fs : List FieldNode} (hc : Collects s d R sel vis fs vis') :
    Collects s d' R sel vis fs vis' := by
  induction hc with
  | nil vis => exact .nil vis
  | field _ ih => exact .field ih
  | spreadVisited hv _ ih => exact .spreadVisited hv ih
  | spreadUnknown hv hf _ ih => exact .spreadUnknown hv (hfb ▸ hf) ih
  | spreadSkip hv hf ha _ ih => exact .spreadSkip hv (hfb ▸ hf) ha ih
  | spreadExpand hv hf ha _ _ ih1 ih2 => exact .spreadExpand hv (hfb ▸ hf) ha ih1 ih2
  | inlineSkip ha _ ih => exact .inlineSkip ha ih
  | inlineExpand ha _ _ ih1 ih2 => exact .inlineExpand ha ih1 ih2

namespace DocSimS
variable {s : Schema} {d d' : Document} (h : DocSimS d d')
include h

theorem symm : DocSimS d' d :=
  ⟨h.defs'.mono fun _ _ => DefSimS.symm, h.defs.mono fun _ _ => DefSimS.symm, h.fragByName.symm, h.fragments.symm, h.depth.symm⟩

theorem mem_walk (hq : s.queryType.isSome = true) {ev : Ev} {env : Snap} (hi : ev.node.isDefinitionLevel = false)
    (hm : (ev, env) ∈ walkOf s d) : (ev, env) ∈ walkOf s d' := by
  obtain ⟨x, hx, hm⟩ := mem_defTrace_of_mem_walkOf hq hi hm
  obtain ⟨y, hy, hs⟩ := h.defs x hx
  rcases hs.mem_defTrace hm with h2 | ⟨o, rfl | rfl⟩
  · exact mem_walkOf_of_mem_defTrace hq hy h2
  · cases hi
  · cases hi

theorem subscription (hv : SubscriptionNotSingleField s d) : SubscriptionNotSingleField s d' := by
  obtain ⟨o, ho, hk, R, hR, fs, vis, hc, hrest⟩ := hv
  obtain ⟨y, hy, hs⟩ := h.defs _ ((mem_operations_iff d o).1 ho)
  have hc' := collects_fragByName h.fragByName hc
  cases hs with
  | refl => exact ⟨o, (mem_operations_iff d' o).2 hy, hk, R, hR, fs, vis, hc', hrest⟩
  | op _ n hp => exact ⟨_, (mem_operations_iff d' _).2 hy, hk, R, hR, fs, vis, hc', hrest⟩

end DocSimS

inductive DefSim : Definition → Definition → Prop
  | op (o : Operation) (n : Option Name) {vs : List VarDef} {sel : List Selection} : o.vars.Perm vs → SelsEq o.sel sel →
      DefSim (.op o) (.op { o with name := n, vars := vs, sel := sel })
  | frag (f : FragDef) {sel : List Selection} : SelsEq f.sel sel → DefSim (.frag f) (.frag { f with sel := sel })

namespace DefSim
variable {s : Schema} {x y : Definition}

theorem of_defRel (h : DefRel x y) : DefSim x y := by
  cases h with
  | op o hs => exact .op o o.name (.refl _) hs
  | frag f hs => exact .frag f hs

theorem of_defSimS (h : DefSimS x y) : DefSim x y := by
  cases h with
  | refl => exact of_defRel (.refl x)
  | op o n hp => exact .op o n hp (.refl _)

theorem symm (h : DefSim x y) : DefSim y x := by
  cases h with
  | op o n hp hs => exact .op { o with name := n, vars := _, sel := _ } o.name hp.symm hs.symm
  | frag f hs => exact .frag { f with sel := _ } hs.symm

theorem mem_defTrace (h : DefSim x y) {ev : Ev} {env : Snap} (hm : (ev, env) ∈ defTrace s x) :
    (∃ ev', EvRel ev ev' ∧ (ev', env) ∈ defTrace s y) ∨ ∃ o, ev = .enter (.operation o) ∨ ev = .leave (.operation o) := by
  cases h with
  | frag f hs => exact .inl ((ev_def_rel s (.frag f hs)).mem hm)
  | op o n hp hs =>
    refine ((DefSimS.op o n hp).mem_defTrace hm).imp_left fun h2 => ?_
    exact (ev_def_rel s (.op { o with name := n, vars := _ } hs)).mem h2

theorem mem_flatMap_defTrace (h : DefSim x y) {β : Type} {g : Ev × Snap → List β} (hf : FlatFn g)
    (hg : ∀ o env, g (.enter (.operation o), env) = [] ∧ g (.leave (.operation o), env) = []) {b : β}
    (hb : b ∈ (defTrace s x).flatMap g) : b ∈ (defTrace s y).flatMap g := by
  obtain ⟨⟨ev, env⟩, hm, hb⟩ := List.mem_flatMap.1 hb
  rcases h.mem_defTrace hm with ⟨ev', hr, h2⟩ | ⟨o, rfl | rfl⟩
  · exact List.mem_flatMap.2 ⟨_, h2, hf ev ev' env hr ▸ hb⟩
  · rw [(hg o env).1] at hb; cases hb
  · rw [(hg o env).2] at hb; cases hb

theorem mem_directives (h : DefSim x y) (p : Directive × DirLoc) : p ∈ directivesOfDefinition x ↔ p ∈ directivesOfDefinition y := by
  cases h with
  | op o n hp hs | frag f hs => simp only [directivesOfDefinition, List.mem_append, dirsOfSels_rel hs p]

theorem mem_directiveLists (h : DefSim x y) (l : List Directive) :
    l ∈ directiveListsOfDefinition x ↔ l ∈ directiveListsOfDefinition y := by
  cases h with
  | op o n hp hs | frag f hs => simp only [directiveListsOfDefinition, List.mem_cons, dirListsOfSels_rel hs l]

end DefSim

/-- What 22 of the 24 conditions can see of a document, names of operations and the order of
    variable definitions apart, is the same in `d` and `d'`: the definitions as a set up to `DefSim`,
    the definition a fragment name resolves to, the names of the fragments up to order. -/
structure DocSim (d d' : Document) : Prop where
  defs : Cover DefSim d d'
  defs' : Cover (flip DefSim) d' d
  fragByName : ∀ nm, FLR (d.fragByName nm) (d'.fragByName nm)
  fragNames : (d.fragments.map (·.name)).Perm (d'.fragments.map (·.name))

theorem DocSimS.docSim {d d' : Document} (h : DocSimS d d') : DocSim d d' where
  defs := h.defs.mono fun _ _ => .of_defSimS
  defs' := h.defs'.mono fun _ _ => .of_defSimS
  fragByName _ := h.fragByName ▸ FLR.refl _
  fragNames := h.fragments.map _

theorem opNames_congr {d d' : Document} (h : (d.operations.map (·.name)).Perm (d'.operations.map (·.name))) :
    (DuplicateOperationName d ↔ DuplicateOperationName d') ∧ (AnonymousNotAlone d ↔ AnonymousNotAlone d') := by
  constructor
  · have := (h.filterMap id).nodup_iff
    simp only [List.filterMap_map, Function.id_comp] at this
    exact not_congr this
  · have hl := h.length_eq
    have hm := h.mem_iff (a := none)
    simp only [List.length_map] at hl
    simp only [List.mem_map] at hm
    unfold AnonymousNotAlone
    rw [hm, hl]

namespace DocSim
variable {s : Schema} {d d' : Document} (h : DocSim d d')
include h

theorem symm : DocSim d' d :=
  ⟨h.defs'.mono fun _ _ => DefSim.symm, h.defs.mono fun _ _ => DefSim.symm, fun nm => (h.fragByName nm).symm, h.fragNames.symm⟩

theorem ops {o : Operation} (ho : o ∈ d.operations) : ∃ n vs sel, o.vars.Perm vs ∧ SelsEq o.sel sel ∧
    ({ o with name := n, vars := vs, sel := sel } : Operation) ∈ d'.operations := by
  obtain ⟨y, hy, hs⟩ := h.defs _ ((mem_operations_iff d o).1 ho)
  cases hs with
  | op _ n hp hs => exact ⟨n, _, _, hp, hs, (mem_operations_iff d' _).2 hy⟩

theorem frags {f : FragDef} (hf : f ∈ d.fragments) : ∃ sel, SelsEq f.sel sel ∧ ({ f with sel := sel } : FragDef) ∈ d'.fragments := by
  obtain ⟨y, hy, hs⟩ := h.defs _ ((mem_fragments_iff d f).1 hf)
  cases hs with
  | frag _ hs => exact ⟨_, hs, (mem_fragments_iff d' _).2 hy⟩

theorem docOk (hd : C01.DocOk d) : C01.DocOk d' := by
  intro o ho v hv
  obtain ⟨n, vs, sel, hp, _, hm⟩ := h.symm.ops ho
  exact hd _ hm v (hp.mem_iff.1 hv)

theorem mem_walk (hq : s.queryType.isSome = true) {ev : Ev} {env : Snap} (hi : ev.node.isDefinitionLevel = false)
    (hm : (ev, env) ∈ walkOf s d) : ∃ ev', EvRel ev ev' ∧ (ev', env) ∈ walkOf s d' := by
  obtain ⟨x, hx, hm⟩ := mem_defTrace_of_mem_walkOf hq hi hm
  obtain ⟨y, hy, hs⟩ := h.defs x hx
  rcases hs.mem_defTrace hm with ⟨ev', hr, h2⟩ | ⟨o, rfl | rfl⟩
  · exact ⟨ev', hr, mem_walkOf_of_mem_defTrace hq hy h2⟩
  · cases hi
  · cases hi

theorem fieldAt (hq : s.queryType.isSome = true) {f : FieldNode} {env : Snap} (hf : FieldAt s d f env) :
    ∃ sel, SelsEq f.sel sel ∧ FieldAt s d' { f with sel := sel } env := by
  obtain ⟨ev', hr, hm⟩ := h.mem_walk hq rfl hf
  cases hr with
  | enter hn =>
    cases hn with
    | same => exact ⟨f.sel, .refl _, hm⟩
    | field _ hs => exact ⟨_, hs, hm⟩

theorem inlineAt (hq : s.queryType.isSome = true) {i : InlineNode} {env : Snap} (hi : InlineAt s d i env) :
    ∃ sel, SelsEq i.sel sel ∧ InlineAt s d' { i with sel := sel } env := by
  obtain ⟨ev', hr, hm⟩ := h.mem_walk hq rfl hi
  cases hr with
  | enter hn =>
    cases hn with
    | same => exact ⟨i.sel, .refl _, hm⟩
    | inline _ hs => exact ⟨_, hs, hm⟩

theorem same_at (hq : s.queryType.isSome = true) {n : Node} {env : Snap} (hn : ∀ n', NodeRel n n' → n' = n)
    (hi : n.isDefinitionLevel = false) (hm : (Ev.enter n, env) ∈ walkOf s d) : (Ev.enter n, env) ∈ walkOf s d' := by
  obtain ⟨ev', hr, hm'⟩ := h.mem_walk hq (ev := .enter n) hi hm
  cases hr with
  | enter hr' => rw [← hn _ hr']; exact hm'

theorem spreadAt (hq : s.queryType.isSome = true) {sp : SpreadNode} {env : Snap} (hsp : SpreadAt s d sp env) : SpreadAt s d' sp env :=
  h.same_at hq (fun _ hr => by cases hr; rfl) rfl hsp

theorem directiveAt (hq : s.queryType.isSome = true) {dir : Directive} (hd : DirectiveAt s d dir) : DirectiveAt s d' dir :=
  hd.imp fun _ hm => h.same_at hq (fun _ hr => by cases hr; rfl) rfl hm

theorem varDefAt (hq : s.queryType.isSome = true) {v : VarDef} (hv : VarDefAt s d v) : VarDefAt s d' v :=
  hv.imp fun _ hm => h.same_at hq (fun _ hr => by cases hr; rfl) rfl hm

theorem noIntro (hq : s.queryType.isSome = true) (hi : C01.NoIntrospectionConditions s d) : C01.NoIntrospectionConditions s d' := by
  intro i env c hm hc
  obtain ⟨sel, _, hm'⟩ := h.symm.inlineAt hq hm
  exact hi _ env c hm' hc

theorem mem_literalSites (hq : s.queryType.isSome = true) {p : Option Ty × Value} (hp : p ∈ C08.literalSites s d) :
    p ∈ C08.literalSites s d' := by
  obtain ⟨⟨ev, env⟩, he, hs⟩ := List.mem_filterMap.1 hp
  have hi : ev.node.isDefinitionLevel = false := by
    unfold siteOf at hs
    split at hs
    next a he =>
      cases he
      rfl
    next v he =>
      cases he
      rfl
    next => cases hs
  obtain ⟨ev', hr, hm⟩ := h.mem_walk hq hi he
  exact List.mem_filterMap.2 ⟨(ev', env), hm, flatFn_siteOf ev ev' env hr ▸ hs⟩

theorem mem_flatMap {β : Type} {g : Definition → List β} (hg : ∀ x y, DefSim x y → ∀ b, b ∈ g x ↔ b ∈ g y) {b : β}
    (hb : b ∈ d.flatMap g) : b ∈ d'.flatMap g := by
  obtain ⟨x, hx, hb⟩ := List.mem_flatMap.1 hb
  obtain ⟨y, hy, hs⟩ := h.defs x hx
  exact List.mem_flatMap.2 ⟨y, hy, (hg x y hs b).1 hb⟩

theorem mem_spreadsOf {n x : Name} (hx : x ∈ spreadsOf d n) : x ∈ spreadsOf d' n := by
  obtain ⟨f, hf, hn, sp, hsp, hx⟩ := Gql.mem_spreadsOf.1 hx
  obtain ⟨_, hy, hr⟩ := h.defs _ hf
  cases hr with
  | frag _ hs => exact Gql.mem_spreadsOf.2 ⟨_, hy, hn, sp, (recSpreads_rel hs sp).1 hsp, hx⟩

theorem reachable {a b : Name} (hr : Reachable (spreadsOf d) a b) : Reachable (spreadsOf d') a b := by
  induction hr with
  | refl => exact .refl _
  | step hm _ ih => exact .step (h.mem_spreadsOf hm) ih

theorem fragmentCycle (hc : FragmentCycle d) : FragmentCycle d' :=
  let ⟨a, b, hb, hr⟩ := hc
  ⟨a, b, h.mem_spreadsOf hb, h.reachable hr⟩

theorem inScope {o o' : Operation} (hs : SelsEq o.sel o'.sel) {k : Name} (hi : InScope d o k) : InScope d' o' k :=
  let ⟨sp, hsp, hr⟩ := hi
  ⟨sp, (recSpreads_rel hs sp).1 hsp, h.reachable hr⟩

/-- `UsedBy` is this disjunction at `g := argVars`, `UsageOf` at `g := varUsage`. -/
theorem mem_scope {β : Type} {g : Ev × Snap → List β} (hf : FlatFn g)
    (hg : ∀ o env, g (.enter (.operation o), env) = [] ∧ g (.leave (.operation o), env) = [])
    {o : Operation} (n : Option Name) {vs : List VarDef} {sel : List Selection} (hp : o.vars.Perm vs) (hs : SelsEq o.sel sel) {b : β}
    (hu : b ∈ (defTrace s (.op o)).flatMap g ∨ ∃ f ∈ d.fragments, InScope d o f.name ∧ b ∈ (defTrace s (.frag f)).flatMap g) :
    b ∈ (defTrace s (.op { o with name := n, vars := vs, sel := sel })).flatMap g ∨
      ∃ f ∈ d'.fragments, InScope d' { o with name := n, vars := vs, sel := sel } f.name ∧ b ∈ (defTrace s (.frag f)).flatMap g := by
  rcases hu with h1 | ⟨f, hfm, hin, hv⟩
  · exact .inl ((DefSim.op o n hp hs).mem_flatMap_defTrace hf hg h1)
  · obtain ⟨fsel, hfs, hfm'⟩ := h.frags hfm
    exact .inr ⟨_, hfm', h.inScope hs hin, (DefSim.frag f hfs).mem_flatMap_defTrace hf hg hv⟩

theorem duplicateVariable (hv : DuplicateVariable d) : DuplicateVariable d' := by
  obtain ⟨o, ho, hd⟩ := hv
  obtain ⟨n, vs, sel, hp, _, hm⟩ := h.ops ho
  exact ⟨_, hm, fun hn => hd ((hp.map _).nodup_iff.2 hn)⟩

/-- with unique variable names a name resolves to the same definition in every order -/
theorem badVariablePosition (hu : ¬ DuplicateVariable d) (hv : BadVariablePosition s d) : BadVariablePosition s d' := by
  obtain ⟨o, ho, u, huu, vd, hvd, hsub⟩ := hv
  obtain ⟨n, vs, sel, hp, hs, hm⟩ := h.ops ho
  refine ⟨_, hm, u, h.mem_scope flatFn_varUsage (fun _ _ => ⟨rfl, rfl⟩) n hp hs huu, vd, ?_, hsub⟩
  have hnd : (o.vars.map (·.name)).Nodup := Classical.byContradiction fun hc => hu ⟨o, ho, hc⟩
  rw [← hvd]
  exact (find?_perm_of_nodup (fun v : VarDef => v.name) hp hnd u.1).symm

theorem badVariablePosition_iff (hu : ¬ DuplicateVariable d) : BadVariablePosition s d ↔ BadVariablePosition s d' :=
  ⟨h.badVariablePosition hu, h.symm.badVariablePosition fun hc => hu (h.symm.duplicateVariable hc)⟩

theorem badVariablePosition_of_vars
    (ho : ∀ o ∈ d.operations, ∃ n sel, SelsEq o.sel sel ∧ ({ o with name := n, sel := sel } : Operation) ∈ d'.operations)
    (hv : BadVariablePosition s d) : BadVariablePosition s d' := by
  obtain ⟨o, hm, u, hu, rest⟩ := hv
  obtain ⟨n, sel, hs, hm'⟩ := ho o hm
  exact ⟨_, hm', u, h.mem_scope flatFn_varUsage (fun _ _ => ⟨rfl, rfl⟩) n (.refl _) hs hu, rest⟩

/-- One direction, for every condition but the field-merging one and 'single field subscriptions'
    (both look at whole selection sets in order).  The three conditions that can see what `DocSim`
    forgets - the names of operations, the order of variable definitions where a name is declared
    twice - are assumed to carry over. -/
theorem violates_mp (hq : s.queryType.isSome = true)
    (hdup : DuplicateOperationName d → DuplicateOperationName d') (hanon : AnonymousNotAlone d → AnonymousNotAlone d')
    (hpos : BadVariablePosition s d → BadVariablePosition s d')
    (r : RuleId) (h1 : r ≠ .overlappingFieldsCanBeMerged) (h2 : r ≠ .singleFieldSubscriptions)
    (hv : C01.Violates r s d) : C01.Violates r s d' := by
  cases r <;> dsimp only [C01.Violates] at hv ⊢
  case uniqueOperationNames => exact hdup hv
  case loneAnonymousOperation => exact hanon hv
  case variablesInAllowedPosition => exact hpos hv
  case overlappingFieldsCanBeMerged => exact absurd rfl h1
  case singleFieldSubscriptions => exact absurd rfl h2
  case knownTypeNames =>
    rcases hv with ⟨f, hf, hk⟩ | ⟨i, env, c, hi, hk⟩ | ⟨v, hva, hk⟩
    · obtain ⟨sel, _, hm⟩ := h.frags hf
      exact .inl ⟨_, hm, hk⟩
    · obtain ⟨sel, _, hi'⟩ := h.inlineAt hq hi
      exact .inr (.inl ⟨_, env, c, hi', hk⟩)
    · exact .inr (.inr ⟨v, h.varDefAt hq hva, hk⟩)
  case fragmentsOnCompositeTypes =>
    rcases hv with ⟨f, hf, hc⟩ | ⟨i, env, c, t, hi, hc⟩
    · obtain ⟨sel, _, hm⟩ := h.frags hf
      exact .inl ⟨_, hm, hc⟩
    · obtain ⟨sel, _, hi'⟩ := h.inlineAt hq hi
      exact .inr ⟨_, env, c, t, hi', hc⟩
  case variablesAreInputTypes =>
    obtain ⟨o, ho, v, hv', ht⟩ := hv
    obtain ⟨n, vs, sel, hp, _, hm⟩ := h.ops ho
    exact ⟨_, hm, v, hp.mem_iff.1 hv', ht⟩
  case leafFieldSelections =>
    obtain ⟨f, env, t, hf, e1, e2, e3⟩ := hv
    obtain ⟨sel, hs, hf'⟩ := h.fieldAt hq hf
    refine ⟨_, env, t, hf', e1, e2, ?_⟩
    rcases e3 with ⟨a, b⟩ | ⟨a, b⟩
    · exact .inl ⟨a, fun e => b ((selsEq_nil_iff hs).2 e)⟩
    · exact .inr ⟨a, (selsEq_nil_iff hs).1 b⟩
  case fieldsOnCorrectType =>
    rcases hv with ⟨f, env, P, hf, hP⟩ | ⟨o, ho, hk, hne⟩
    · obtain ⟨sel, _, hf'⟩ := h.fieldAt hq hf
      exact .inl ⟨_, env, P, hf', hP⟩
    · obtain ⟨n, vs, sel, _, hs, hm⟩ := h.ops ho
      exact .inr ⟨_, hm, hk, (rootTypename_rel hs).1 hne⟩
  case uniqueFragmentNames => exact fun hnd => hv (h.fragNames.nodup_iff.2 hnd)
  case knownFragmentNames =>
    obtain ⟨sp, env, hsp, hall⟩ := hv
    refine ⟨sp, env, h.spreadAt hq hsp, fun f hf hname => ?_⟩
    obtain ⟨sel, _, hm⟩ := h.symm.frags hf
    exact hall _ hm hname
  case noUnusedFragments =>
    obtain ⟨f, hf, hnu⟩ := hv
    obtain ⟨sel, _, hm⟩ := h.frags hf
    refine ⟨_, hm, fun ⟨o, ho, hin⟩ => hnu ?_⟩
    obtain ⟨n, vs, osel, _, hos, hom⟩ := h.symm.ops ho
    exact ⟨_, hom, h.symm.inScope hos hin⟩
  case noFragmentsCycle => exact h.fragmentCycle hv
  case possibleFragmentSpreads =>
    rcases hv with ⟨i, env, ft, pt, hi, ht⟩ | ⟨sp, env, frag, ft, pt, hsp, hf, ht⟩
    · obtain ⟨sel, _, hi'⟩ := h.inlineAt hq hi
      exact .inl ⟨_, env, ft, pt, hi', ht⟩
    · have hl := h.fragByName sp.name
      rw [hf] at hl
      generalize hv' : d'.fragByName sp.name = v at hl
      cases hl with
      | some _ hs => exact .inr ⟨sp, env, _, ft, pt, h.spreadAt hq hsp, hv', ht⟩
  case noUnusedVariables =>
    obtain ⟨o, ho, vd, hvd, hnu⟩ := hv
    obtain ⟨n, vs, sel, hp, hs, hm⟩ := h.ops ho
    exact ⟨_, hm, vd, hp.mem_iff.1 hvd, fun hu => hnu (h.symm.mem_scope flatFn_argVars (fun _ _ => ⟨rfl, rfl⟩)
      (o := { o with name := n, vars := vs, sel := sel }) o.name hp.symm hs.symm hu)⟩
  case noUndefinedVariables =>
    obtain ⟨o, ho, v, hu, hund⟩ := hv
    obtain ⟨n, vs, sel, hp, hs, hm⟩ := h.ops ho
    exact ⟨_, hm, v, h.mem_scope flatFn_argVars (fun _ _ => ⟨rfl, rfl⟩) n hp hs hu, fun vd hvd => hund vd (hp.mem_iff.2 hvd)⟩
  case knownArgumentNames =>
    rcases hv with ⟨f, env, P, fd, a, hf, ha⟩ | ⟨dir, dd, a, hda, ha⟩
    · obtain ⟨sel, _, hf'⟩ := h.fieldAt hq hf
      exact .inl ⟨_, env, P, fd, a, hf', ha⟩
    · exact .inr ⟨dir, dd, a, h.directiveAt hq hda, ha⟩
  case uniqueArgumentNames =>
    rcases hv with ⟨f, env, hf, hd⟩ | ⟨dir, hda, hd⟩
    · obtain ⟨sel, _, hf'⟩ := h.fieldAt hq hf
      exact .inl ⟨_, env, hf', hd⟩
    · exact .inr ⟨dir, h.directiveAt hq hda, hd⟩
  case uniqueVariableNames => exact h.duplicateVariable hv
  case providedRequiredArguments =>
    rcases hv with ⟨f, env, P, fd, ad, hf, ha⟩ | ⟨dir, dd, ad, hda, ha⟩
    · obtain ⟨sel, _, hf'⟩ := h.fieldAt hq hf
      exact .inl ⟨_, env, P, fd, ad, hf', ha⟩
    · exact .inr ⟨dir, dd, ad, h.directiveAt hq hda, ha⟩
  case knownDirectives =>
    obtain ⟨p, hp, hk⟩ := hv
    exact ⟨p, h.mem_flatMap (fun _ _ hs => hs.mem_directives) hp, hk⟩
  case valuesOfCorrectType =>
    obtain ⟨τ, v, hm, hnc⟩ := hv
    exact ⟨τ, v, h.mem_literalSites hq hm, hnc⟩
  case uniqueDirectivesPerLocation =>
    obtain ⟨l, hl, hrest⟩ := hv
    exact ⟨l, h.mem_flatMap (fun _ _ hs => hs.mem_directiveLists) hl, hrest⟩

theorem fires (hs : C01.SchemaOk s) (hn : (d.fragments.map (·.name)).Nodup) (r : RuleId) (hr : r ≠ .overlappingFieldsCanBeMerged)
    (hv : C01.Violates r s d ↔ C01.Violates r s d') : fires r s d ↔ fires r s d' := by
  have hq := hs.queryRoot
  by_cases h2 : r = .noFragmentsCycle
  · subst h2
    rw [C06.noFragmentsCycle_iff s d hq hn, C06.noFragmentsCycle_iff s d' hq (h.fragNames.nodup_iff.1 hn)]
    exact hv
  by_cases h3 : r = .valuesOfCorrectType
  · -- compared site by site: `C08.valuesOfCorrectType_iff_wf` would need the variable types to be good
    subst h3
    unfold Gql.fires
    rw [C08.errs_eq, C08.errs_eq, flatMap_ne_nil_iff, flatMap_ne_nil_iff]
    exact ⟨fun ⟨p, hp, hne⟩ => ⟨p, h.mem_literalSites hq hp, hne⟩, fun ⟨p, hp, hne⟩ => ⟨p, h.symm.mem_literalSites hq hp, hne⟩⟩
  rw [C01.fires_iff_violates_basic s d hs r hr h2 h3, C01.fires_iff_violates_basic s d' hs r hr h2 h3]
  exact hv

theorem accepted_of_violates (hs : C01.SchemaOk s) (hd : C01.DocOk d) (hi : C01.NoIntrospectionConditions s d)
    (r0 : RuleId) (h0 : C01.Violates r0 s d ↔ C01.Violates r0 s d')
    (hv : ¬ C01.Violates r0 s d → ∀ r, C01.Violates r s d ↔ C01.Violates r s d') :
    validate s d Gen.defaultPlan = some [] ↔ validate s d' Gen.defaultPlan = some [] := by
  rw [C01.accepted_iff_valid_plain s d hs hd hi, C01.accepted_iff_valid_plain s d' hs (h.docOk hd) (h.noIntro hs.queryRoot hi)]
  exact ⟨fun ha r hr => ha r ((hv (ha r0) r).2 hr), fun ha r hr => ha r ((hv (fun hc => ha r0 (h0.1 hc)) r).1 hr)⟩

end DocSim

theorem DocSimS.violates_mp {s : Schema} {d d' : Document} (h : DocSimS d d') (hq : s.queryType.isSome = true)
    (hdup : DuplicateOperationName d → DuplicateOperationName d') (hanon : AnonymousNotAlone d → AnonymousNotAlone d')
    (hpos : BadVariablePosition s d → BadVariablePosition s d')
    (r : RuleId) (hr : r ≠ .overlappingFieldsCanBeMerged) (hv : C01.Violates r s d) : C01.Violates r s d' := by
  by_cases h2 : r = .singleFieldSubscriptions
  · subst h2; exact h.subscription hv
  · exact h.docSim.violates_mp hq hdup hanon hpos r hr h2 hv

section
variable {s : Schema} {d d' : Document}

theorem perm_operations (h : d.Perm d') : d.operations.Perm d'.operations :=
  perm_of_cons_append (k := fun | .op o => [o] | _ => []) rfl (fun x _ => by cases x <;> rfl) h

theorem perm_fragments (h : d.Perm d') : d.fragments.Perm d'.fragments :=
  perm_of_cons_append (k := fun | .frag f => [f] | _ => []) rfl (fun x _ => by cases x <;> rfl) h

theorem docDepth_perm (h : d.Perm d') : docDepth d = docDepth d' := by
  induction h with
  | nil => rfl
  | cons x _ ih => simp only [docDepth, ih]
  | swap x y l => exact Nat.max_left_comm ..
  | trans _ _ ih1 ih2 => exact ih1.trans ih2

theorem fragByName_perm (h : d.Perm d') (hn : (d.fragments.map (·.name)).Nodup) : d.fragByName = d'.fragByName := by
  have hp := perm_fragments h
  funext n
  unfold Document.fragByName
  rw [find_reverse_of_nodup (fun f : FragDef => f.name) _ hn, find_reverse_of_nodup (fun f : FragDef => f.name) _ ((hp.map _).nodup_iff.1 hn)]
  exact find?_perm_of_nodup _ hp hn n

theorem docSimS_of_perm (h : d.Perm d') (hn : (d.fragments.map (·.name)).Nodup) : DocSimS d d' where
  defs x hx := ⟨x, h.mem_iff.1 hx, .refl x⟩
  defs' x hx := ⟨x, h.mem_iff.2 hx, .refl x⟩
  fragByName := fragByName_perm h hn
  fragments := perm_fragments h
  depth := docDepth_perm h

theorem violates_perm_mp (h : d.Perm d') (hq : s.queryType.isSome = true) (hn : (d.fragments.map (·.name)).Nodup)
    (r : RuleId) (hr : r ≠ .overlappingFieldsCanBeMerged) (hv : C01.Violates r s d) : C01.Violates r s d' := by
  have hs := docSimS_of_perm h hn
  have ho := perm_operations h
  have hc := opNames_congr (ho.map (·.name))
  exact hs.violates_mp hq hc.1.1 hc.2.1
    (hs.docSim.badVariablePosition_of_vars fun o ho' => ⟨o.name, o.sel, .refl _, ho.mem_iff.1 ho'⟩) r hr hv

/-- every condition but the field-merging one is invariant under permuting the definitions -/
theorem violates_perm (h : d.Perm d') (hq : s.queryType.isSome = true) (hn : (d.fragments.map (·.name)).Nodup)
    (r : RuleId) (hr : r ≠ .overlappingFieldsCanBeMerged) : C01.Violates r s d ↔ C01.Violates r s d' :=
  ⟨violates_perm_mp h hq hn r hr,
   violates_perm_mp h.symm hq (((perm_fragments h).map _).nodup_iff.1 hn) r hr⟩

/-- **C14, definitions.**  Which of the 23 rules (all but the field-merging one) report is the
    same for a document and any permutation of its top-level definitions. -/
theorem fires_perm (hs : C01.SchemaOk s) (hd : C01.DocOk d) (h : d.Perm d')
    (hn : (d.fragments.map (·.name)).Nodup) (r : RuleId) (hr : r ≠ .overlappingFieldsCanBeMerged) :
    fires r s d ↔ fires r s d' :=
  (docSimS_of_perm h hn).docSim.fires hs hn r hr (violates_perm h hs.queryRoot hn r hr)

end

/-- **F18 (known finding).**  `query ($x: Int, $x: Int!) { f(r: $x) }` against `f(r: Int!)`: the two
    orders of the variable definitions are permutations of each other, the uniqueness rule reports
    for both, variables-in-allowed-position (first match) only for the first. -/
theorem f18_witness :
    let a := [C07.qry none [C07.var 120 (.named 6) none, C07.var 120 (.nonNull (.named 6)) none] [C07.fld [(104, .var 120)]]]
    let b := [C07.qry none [C07.var 120 (.nonNull (.named 6)) none, C07.var 120 (.named 6) none] [C07.fld [(104, .var 120)]]]
    fires .uniqueVariableNames C07.exSchema a ∧ fires .uniqueVariableNames C07.exSchema b ∧
    fires .variablesInAllowedPosition C07.exSchema a ∧ ¬ fires .variablesInAllowedPosition C07.exSchema b := by
  decide

/-- **F19 (known finding).**  Against `type Query { a: Int }` (no subscription root type),
    `subscription { __typename }` is rejected - by the extra check of fields-on-correct-type only -
    and `subscription { ... { __typename } }` is accepted by every rule. -/
theorem f19_witness :
    let s : Schema := [.type (.object 0 [] [⟨100, [], .named 6⟩]), .type (.scalar 6)]
    let tn : Selection := .field ⟨1, 16⟩ none nTypename [] [] []
    let a : Document := [.op ⟨.subscription, ⟨1, 1⟩, none, [], [], [tn]⟩]
    let b : Document := [.op ⟨.subscription, ⟨1, 1⟩, none, [], [], [.inline ⟨1, 16⟩ none [] [tn]]⟩]
    fires .fieldsOnCorrectType s a ∧ (∀ r, r ≠ .fieldsOnCorrectType → ¬ fires r s a) ∧ ∀ r, ¬ fires r s b := by
  refine ⟨by decide, ?_, ?_⟩
  · intro r hr; cases r <;> first | exact absurd rfl hr | decide | decide +kernel
  · intro r; cases r <;> first | decide | decide +kernel

end Gql.C14
