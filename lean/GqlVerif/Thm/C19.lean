/-
  Thm/C19.lean — PROPERTY C19: collect_fields implements the spec's CollectFields: it returns
  exactly the fields the relation `Collects` (Spec/Collect.lean) gathers, grouped by response key
  in encounter order, and it terminates on every document (cyclic fragment graphs included).
-/
import GqlVerif.Lemmas.Collect
import GqlVerif.Lemmas.AssocList
namespace Gql.C19
open Gql.Spec

/-- **Termination**: with the fuel the model uses (number of fragment definitions + 1) the
    collection never gets stuck — for every schema, document, parent type and selection set. -/
theorem collect_terminates (s : Schema) (d : Document) (R : TypeDef) (sel : List Selection) :
    (collectFields s d R sel).stuck = false := by
  exact (collectN_term s d R _ sel {} rfl (Nat.lt_succ_of_le (List.length_filter_le _ d.fragments))).1

/-- **Refinement**: the result is the grouping of the fields the spec relation collects. -/
theorem collect_sound (s : Schema) (d : Document) (R : TypeDef) (h : ParentOk s R) (sel : List Selection) :
    ∃ fs vis, Collects s d R sel [] fs vis ∧ (collectFields s d R sel).groups = groupFields fs := by
  have hok := collectN_ok s d R h (d.fragments.length + 1) sel {}
  obtain ⟨_, fs, hc, hg⟩ := hok (collect_terminates s d R sel)
  exact ⟨fs, _, hc, hg⟩

/-- What a derivation looks like, by the shape of the selection set: the side conditions decide
    which rule was used last.  (All indices of `h` are variables here, so the case analysis needs
    no unification.) -/
theorem collects_inv {s : Schema} {d : Document} {R : TypeDef} {sel vis fs vis'}
    (h : Collects s d R sel vis fs vis') :
    match sel with
    | [] => fs = [] ∧ vis' = vis
    | .field pos alias name args dirs sub :: rest =>
      ∃ fs', fs = ⟨pos, alias, name, args, dirs, sub⟩ :: fs' ∧ Collects s d R rest vis fs' vis'
    | .spread _ name _ :: rest =>
      (name ∈ vis → Collects s d R rest vis fs vis') ∧
      (name ∉ vis →
        (d.fragByName name = none → Collects s d R rest (vis ++ [name]) fs vis') ∧
        ∀ frag, d.fragByName name = some frag →
          (¬ Applies s R (some frag.tc) → Collects s d R rest (vis ++ [name]) fs vis') ∧
          (Applies s R (some frag.tc) → ∃ fs1 vis1 fs2, fs = fs1 ++ fs2 ∧
            Collects s d R frag.sel (vis ++ [name]) fs1 vis1 ∧ Collects s d R rest vis1 fs2 vis'))
    | .inline _ tc _ sub :: rest =>
      (¬ Applies s R tc → Collects s d R rest vis fs vis') ∧
      (Applies s R tc → ∃ fs1 vis1 fs2, fs = fs1 ++ fs2 ∧
        Collects s d R sub vis fs1 vis1 ∧ Collects s d R rest vis1 fs2 vis') := by
  cases h with
  | nil => exact ⟨rfl, rfl⟩
  | field h => exact ⟨_, rfl, h⟩
  | spreadVisited hv h => exact ⟨fun _ => h, fun hn => absurd hv hn⟩
  | spreadUnknown hn hf h =>
    exact ⟨fun hv => absurd hv hn, fun _ => ⟨fun _ => h, fun _ hf' => nomatch hf.symm.trans hf'⟩⟩
  | spreadSkip hn hf hna h =>
    refine ⟨fun hv => absurd hv hn, fun _ => ⟨fun hf' => (nomatch hf.symm.trans hf'), fun _ hf' => ?_⟩⟩
    cases hf.symm.trans hf'
    exact ⟨fun _ => h, fun ha => absurd ha hna⟩
  | spreadExpand hn hf ha h1 h2 =>
    refine ⟨fun hv => absurd hv hn, fun _ => ⟨fun hf' => (nomatch hf.symm.trans hf'), fun _ hf' => ?_⟩⟩
    cases hf.symm.trans hf'
    exact ⟨fun hna => absurd ha hna, fun _ => ⟨_, _, _, rfl, h1, h2⟩⟩
  | inlineSkip hna h => exact ⟨fun _ => h, fun ha => absurd ha hna⟩
  | inlineExpand ha h1 h2 => exact ⟨fun hna => absurd ha hna, fun _ => ⟨_, _, _, rfl, h1, h2⟩⟩

/-- the spec relation is a function of (selection set, visited names) -/
theorem collects_functional (s : Schema) (d : Document) (R : TypeDef) :
    ∀ {sel vis fs1 vis1 fs2 vis2}, Collects s d R sel vis fs1 vis1 → Collects s d R sel vis fs2 vis2 →
      fs1 = fs2 ∧ vis1 = vis2 := by
  intro sel vis fs1 vis1 fs2 vis2 h1
  induction h1 generalizing fs2 vis2 with
  | nil vis => intro h2; exact ⟨(collects_inv h2).1.symm, (collects_inv h2).2.symm⟩
  | field _ ih =>
    intro h2
    obtain ⟨fs', rfl, h2'⟩ := collects_inv h2
    obtain ⟨rfl, b⟩ := ih h2'
    exact ⟨rfl, b⟩
  | spreadVisited hv _ ih => exact fun h2 => ih ((collects_inv h2).1 hv)
  | spreadUnknown hn hf _ ih => exact fun h2 => ih (((collects_inv h2).2 hn).1 hf)
  | spreadSkip hn hf hna _ ih => exact fun h2 => ih ((((collects_inv h2).2 hn).2 _ hf).1 hna)
  | spreadExpand hn hf ha _ _ ih1 ih2 =>
    intro h2
    obtain ⟨_, _, _, rfl, h2a, h2b⟩ := (((collects_inv h2).2 hn).2 _ hf).2 ha
    obtain ⟨rfl, rfl⟩ := ih1 h2a
    obtain ⟨rfl, e⟩ := ih2 h2b
    exact ⟨rfl, e⟩
  | inlineSkip hna _ ih => exact fun h2 => ih ((collects_inv h2).1 hna)
  | inlineExpand ha _ _ ih1 ih2 =>
    intro h2
    obtain ⟨_, _, _, rfl, h2a, h2b⟩ := (collects_inv h2).2 ha
    obtain ⟨rfl, rfl⟩ := ih1 h2a
    obtain ⟨rfl, e⟩ := ih2 h2b
    exact ⟨rfl, e⟩

/-- **collect_fields = CollectFields**: whatever fields the spec relation gathers, the helper
    returns exactly their grouping (every collected field, nothing else). -/
theorem collect_eq_spec (s : Schema) (d : Document) (R : TypeDef) (h : ParentOk s R) (sel : List Selection)
    (fs : List FieldNode) (vis : List Name) (hc : Collects s d R sel [] fs vis) :
    (collectFields s d R sel).groups = groupFields fs := by
  obtain ⟨fs', vis', hc', hg⟩ := collect_sound s d R h sel
  rw [hg, (collects_functional s d R hc hc').1]

/-! ### What "grouped by response key, in document order within each group" means -/

/-- the group stored under key `k` is the list of collected fields with response key `k`, in the
    order they were collected; a key is present iff some collected field has it -/
theorem group_lookup (fs : List FieldNode) (k : Name) :
    (alGet (groupFields fs) k).getD [] = fs.filter (fun f => f.responseKey = k) :=
  alGet_alGroup FieldNode.responseKey k fs []

/-! Non-vacuity: `subscription { a: s1 b: s1 ...F } fragment F on Subscription { s2 ...F }` -/
def exSchema : Schema := [ .type (.object 4 [] [⟨20, [], .named 6⟩, ⟨22, [], .named 6⟩]), .type (.scalar 6), .type (.object 0 [] []) ]
def exFrag : FragDef := ⟨⟨2, 1⟩, 30, 4, [], [.field ⟨2, 9⟩ none 22 [] [] [], .spread ⟨2, 12⟩ 30 []]⟩
def exSel : List Selection :=
  [.field ⟨1, 1⟩ (some 24) 20 [] [] [], .field ⟨1, 2⟩ (some 26) 20 [] [] [], .spread ⟨1, 3⟩ 30 []]
def exDoc : Document := [.op ⟨.subscription, ⟨1, 1⟩, none, [], [], exSel⟩, .frag exFrag]

example : ParentOk exSchema (.object 4 [] [⟨20, [], .named 6⟩, ⟨22, [], .named 6⟩]) :=
  ⟨by decide, List.mem_cons_self, rfl⟩
example : ((collectFields exSchema exDoc (.object 4 [] [⟨20, [], .named 6⟩, ⟨22, [], .named 6⟩]) exSel).groups.map (·.1)) = [24, 26, 22] := by
  decide

end Gql.C19
