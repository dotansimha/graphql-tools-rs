/-
  Thm/TieRules.lean — each rule of the model looks at the document through exactly the visitor
  callbacks the rule's `impl OperationVisitor` block overrides in /repo (Gen/RuleCallbacks.lean,
  regenerated from src/validation/rules/*.rs on every run):

  * `rule_callbacks_expected`: the generated table is the one the model was written against — a
    callback added to, removed from or renamed in a rule breaks this obligation;
  * `rule_ignores_other_events`: at every event that is not one of those callbacks the model of
    the rule keeps its state and reports nothing, for every schema, document, state and snapshot.
-/
import GqlVerif.Gen.RuleCallbacks
import GqlVerif.Thm.Tie
import GqlVerif.Model.Validate
namespace Gql.Tie

/-- the trait callback an event of the model's trace stands for -/
def evCallback : Ev → String
  | .enter n => (nodeCallbacks n).1
  | .leave n => (nodeCallbacks n).2

/-- the callbacks each rule was modelled with (rules and callbacks in alphabetical order, as generated) -/
def expectedRuleCallbacks : List (RuleId × List String) :=
  [(.fieldsOnCorrectType, ["enter_field", "enter_operation_definition"]),
   (.fragmentsOnCompositeTypes, ["enter_fragment_definition", "enter_inline_fragment"]),
   (.knownArgumentNames, ["enter_argument", "enter_directive", "enter_field", "leave_directive", "leave_field"]),
   (.knownDirectives, ["enter_directive", "enter_field", "enter_fragment_definition", "enter_fragment_spread", "enter_inline_fragment", "enter_operation_definition", "leave_field", "leave_fragment_definition", "leave_fragment_spread", "leave_inline_fragment", "leave_operation_definition"]),
   (.knownFragmentNames, ["enter_fragment_spread"]),
   (.knownTypeNames, ["enter_fragment_definition", "enter_inline_fragment", "enter_variable_definition"]),
   (.leafFieldSelections, ["enter_field"]),
   (.loneAnonymousOperation, ["enter_document"]),
   (.noFragmentsCycle, ["enter_fragment_definition"]),
   (.noUndefinedVariables, ["enter_argument", "enter_fragment_definition", "enter_fragment_spread", "enter_operation_definition", "enter_variable_definition", "leave_document"]),
   (.noUnusedFragments, ["enter_fragment_definition", "enter_fragment_spread", "leave_document", "leave_fragment_definition"]),
   (.noUnusedVariables, ["enter_argument", "enter_fragment_definition", "enter_fragment_spread", "enter_operation_definition", "enter_variable_definition", "leave_document"]),
   (.overlappingFieldsCanBeMerged, ["enter_document", "enter_selection_set"]),
   (.possibleFragmentSpreads, ["enter_fragment_spread", "enter_inline_fragment"]),
   (.providedRequiredArguments, ["enter_directive", "enter_field"]),
   (.singleFieldSubscriptions, ["enter_operation_definition"]),
   (.uniqueArgumentNames, ["enter_directive", "enter_field"]),
   (.uniqueDirectivesPerLocation, ["enter_field", "enter_fragment_definition", "enter_fragment_spread", "enter_inline_fragment", "enter_operation_definition"]),
   (.uniqueFragmentNames, ["enter_fragment_definition"]),
   (.uniqueOperationNames, ["enter_operation_definition"]),
   (.uniqueVariableNames, ["enter_operation_definition", "enter_variable_definition"]),
   (.valuesOfCorrectType, ["enter_enum_value", "enter_list_value", "enter_null_value", "enter_object_value", "enter_scalar_value"]),
   (.variablesAreInputTypes, ["enter_variable_definition"]),
   (.variablesInAllowedPosition, ["enter_fragment_definition", "enter_fragment_spread", "enter_operation_definition", "enter_variable_definition", "enter_variable_value", "leave_document"])]

/-- the table read from the code now is the one the model was written against -/
theorem rule_callbacks_expected : Gen.ruleCallbacks = expectedRuleCallbacks := rfl

theorem rule_callbacks_cover (r : RuleId) : (Gen.ruleCallbacks.filter fun p => p.1 == r).length = 1 := by
  cases r <;> rfl

theorem rule_callbacks_are_callbacks :
    ∀ p ∈ Gen.ruleCallbacks, ∀ c ∈ p.2, c ∈ Gen.operationVisitorCallbacks := by
  unfold Gen.ruleCallbacks Gen.operationVisitorCallbacks
  simp only [List.forall_mem_cons, List.not_mem_nil, false_imp_iff, implies_true, and_true]
  -- one membership per listed callback, each as in `mem_lit`
  repeat' constructor

def callbacksOf (r : RuleId) : List String := (alGet Gen.ruleCallbacks r).getD []

/-- the callbacks at which `Coll.on` does bookkeeping of its own; at every other one it only
    files what `itemsOf` finds there under the current scope -/
def collKey : Ev → Bool
  | .enter (.operation _) | .enter (.fragmentDef _) | .enter (.spread _) | .enter (.varDef _) => true
  | _ => false

theorem Coll.on_idle {ι : Type} (itemsOf : Ev × Snap → List ι) (st : Coll ι) (e : Ev × Snap)
    (hk : collKey e.1 = false) (hi : itemsOf e = []) : st.on itemsOf e = st := by
  unfold Coll.on
  split <;> first | (simp [collKey, *] at hk; done) | skip
  rw [hi]; cases st.scope <;> rfl

/-- A collecting rule reacts to `leave_document` (its report), to the callbacks at which `Coll.on`
    does bookkeeping and to those at which `itemsOf` finds something; at any other it does nothing. -/
theorem collRule_ignores {ι : Type} (itemsOf : Ev × Snap → List ι) (report : Schema → Coll ι → List Err) (cbs : List String)
    (hdoc : "leave_document" ∈ cbs) (hkey : ∀ ev, collKey ev = true → evCallback ev ∈ cbs)
    (hitems : ∀ ev sn, evCallback ev ∉ cbs → itemsOf (ev, sn) = [])
    (s : Schema) (d : Document) (σ : Coll ι) (ev : Ev) (sn : Snap) (h : evCallback ev ∉ cbs) :
    (collRule itemsOf report).on s d σ (ev, sn) = (σ, []) := by
  have hk : collKey ev = false := by
    cases hc : collKey ev with
    | false => rfl
    | true => exact absurd (hkey ev hc) h
  simp only [collRule]
  split
  · exact absurd hdoc h
  · exact congrArg (·, []) (Coll.on_idle itemsOf σ (ev, sn) hk (hitems ev sn h))

theorem collKey_callbacks (cbs : List String) (ho : "enter_operation_definition" ∈ cbs) (hf : "enter_fragment_definition" ∈ cbs)
    (hs : "enter_fragment_spread" ∈ cbs) (hv : "enter_variable_definition" ∈ cbs) (ev : Ev) (hc : collKey ev = true) :
    evCallback ev ∈ cbs := by
  unfold collKey at hc
  split at hc
  · exact ho
  · exact hf
  · exact hs
  · exact hv
  · cases hc

/-- **At an event that is none of the callbacks the code's rule overrides, the model of the rule
    does nothing** — it keeps its state and reports no error. -/
theorem rule_ignores_other_events (s : Schema) (d : Document) (r : RuleId) (σ : (ruleOf r).σ) (e : Ev × Snap)
    (h : evCallback e.1 ∉ callbacksOf r) : (ruleOf r).on s d σ e = (σ, []) := by
  obtain ⟨ev, sn⟩ := e
  cases r
  case noUnusedVariables | noUndefinedVariables =>
    refine collRule_ignores argVars _ _ (by mem_lit)
      (collKey_callbacks _ (by mem_lit) (by mem_lit) (by mem_lit) (by mem_lit)) (fun ev sn h => ?_) s d σ ev sn h
    unfold argVars
    split
    · next heq => cases heq; exact absurd (by mem_lit) h
    · rfl
  case variablesInAllowedPosition =>
    refine collRule_ignores varUsage _ _ (by mem_lit)
      (collKey_callbacks _ (by mem_lit) (by mem_lit) (by mem_lit) (by mem_lit)) (fun ev sn h => ?_) s d σ ev sn h
    unfold varUsage
    split
    · next heq _ => cases heq; exact absurd (by mem_lit) h
    · rfl
  -- the other handlers are one `match` on the callback: its last arm returns `(σ, [])`, every other
  -- arm is for one of the listed callbacks
  all_goals
    simp only [ruleOf, Rule.stateless, uniqueOperationNames, loneAnonymousOperation, singleFieldSubscriptions,
      knownTypeNames, fragmentsOnCompositeTypes, variablesAreInputTypes, leafFieldSelections, fieldsOnCorrectType,
      uniqueFragmentNames, knownFragmentNames, noUnusedFragments, overlappingFieldsCanBeMerged, possibleFragmentSpreads,
      noFragmentsCycle, knownArgumentNames, uniqueArgumentNames, uniqueVariableNames, providedRequiredArguments,
      knownDirectives, valuesOfCorrectType, uniqueDirectivesPerLocation, udCheck]
    split
    all_goals first | rfl | exact absurd (by mem_lit) h

end Gql.Tie
