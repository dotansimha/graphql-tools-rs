/-
  Thm/Tie.lean — the model has exactly one node kind / hook per callback of the three traits it
  mirrors.  The callback names are regenerated from the trait definitions in /repo/src/ast on every
  run (Gen/Callbacks.lean), so adding, removing or renaming a callback breaks these obligations.
-/
import GqlVerif.Gen.Callbacks
import GqlVerif.Model.Visitor
import GqlVerif.Model.SchemaVisitor
import GqlVerif.Model.Transformer
namespace Gql.Tie

/-- the two lists hold the same names, each once (the generated lists are sorted, so the order in
    which the source declares its methods does not matter) -/
def sameNames (a b : List String) : Bool :=
  a.length == b.length && a.all (fun x => b.contains x) && b.all (fun x => a.contains x)

theorem sameNames_of_subset {a b : List String} (hl : a.length = b.length) (hab : a ⊆ b) (hba : b ⊆ a) :
    sameNames a b = true := by
  simp only [sameNames, hl, beq_self_eq_true, Bool.true_and, Bool.and_eq_true, List.all_eq_true, List.contains_iff_mem]
  exact ⟨fun _ h => hab h, fun _ h => hba h⟩

/-- `x ∈ [a, b, …]` between literals: `List.Mem.head` at the position of `x`, `List.Mem.tail` past
    the others.  The literals are compared as syntax; deciding `String` equality instead turns
    every literal into its bytes, which is slow in the elaborator and again in the kernel. -/
macro "mem_lit" : tactic => `(tactic| repeat constructor)

/-- `[a, b, …] ⊆ l` between literal lists, element by element -/
macro "subset_lit" : tactic =>
  `(tactic| repeat (first | exact List.nil_subset _ | refine List.cons_subset.2 ⟨by mem_lit, ?_⟩))

/-- the (enter, leave) callbacks of `trait OperationVisitor` a model node stands for -/
def nodeCallbacks : Node → String × String
  | .document _ => ("enter_document", "leave_document")
  | .operation _ => ("enter_operation_definition", "leave_operation_definition")
  | .fragmentDef _ => ("enter_fragment_definition", "leave_fragment_definition")
  | .varDef _ => ("enter_variable_definition", "leave_variable_definition")
  | .directive _ => ("enter_directive", "leave_directive")
  | .argument _ => ("enter_argument", "leave_argument")
  | .selectionSet _ => ("enter_selection_set", "leave_selection_set")
  | .field _ => ("enter_field", "leave_field")
  | .spread _ => ("enter_fragment_spread", "leave_fragment_spread")
  | .inline _ => ("enter_inline_fragment", "leave_inline_fragment")
  | .nullValue => ("enter_null_value", "leave_null_value")
  | .scalar _ => ("enter_scalar_value", "leave_scalar_value")
  | .enumValue _ => ("enter_enum_value", "leave_enum_value")
  | .variable _ => ("enter_variable_value", "leave_variable_value")
  | .list _ => ("enter_list_value", "leave_list_value")
  | .object _ => ("enter_object_value", "leave_object_value")
  | .objectField _ => ("enter_object_field", "leave_object_field")

/-- one representative node per kind, in the order of the trait -/
def nodeSamples : List Node :=
  [.document [], .operation default, .fragmentDef default, .varDef default, .directive default, .argument default,
   .selectionSet [], .field default, .spread default, .inline default, .nullValue, .scalar .null, .enumValue 0,
   .variable 0, .list [], .object [], .objectField default]

/-- every callback of the trait is the enter or leave callback of one model node kind, and conversely -/
theorem operation_callbacks_modelled :
    sameNames Gen.operationVisitorCallbacks (nodeSamples.flatMap (fun n => [(nodeCallbacks n).1, (nodeCallbacks n).2])) = true := by
  simp only [Gen.operationVisitorCallbacks, nodeSamples, nodeCallbacks, List.flatMap_cons, List.flatMap_nil, List.cons_append, List.nil_append]
  refine sameNames_of_subset rfl ?_ ?_ <;> subset_lit

/-- and every model node kind stands for a pair of trait callbacks -/
theorem operation_nodes_are_callbacks (n : Node) :
    (nodeCallbacks n).1 ∈ Gen.operationVisitorCallbacks ∧ (nodeCallbacks n).2 ∈ Gen.operationVisitorCallbacks := by
  unfold Gen.operationVisitorCallbacks
  cases n <;> exact ⟨by mem_lit, by mem_lit⟩

def snodeCallbacks : SNode → String × String
  | .document => ("enter_document", "leave_document")
  | .schemaDef _ => ("enter_schema_definition", "leave_schema_definition")
  | .directiveDef _ => ("enter_directive_definition", "leave_directive_definition")
  | .typeDef _ => ("enter_type_definition", "leave_type_definition")
  | .interfaceType _ => ("enter_interface_type", "leave_interface_type")
  | .interfaceField _ _ => ("enter_interface_type_field", "leave_interface_type_field")
  | .objectType _ => ("enter_object_type", "leave_object_type")
  | .objectField _ _ => ("enter_object_type_field", "leave_object_type_field")
  | .inputObjectType _ => ("enter_input_object_type", "leave_input_object_type")
  | .inputField _ _ => ("enter_input_object_type_field", "leave_input_object_type_field")
  | .unionType _ => ("enter_union_type", "leave_union_type")
  | .scalarType _ => ("enter_scalar_type", "leave_scalar_type")
  | .enumType _ => ("enter_enum_type", "leave_enum_type")
  | .enumValue _ _ => ("enter_enum_value", "leave_enum_value")

def snodeSamples : List SNode :=
  [.document, .schemaDef default, .directiveDef default, .typeDef default, .interfaceType default, .interfaceField default 0,
   .objectType default, .objectField default 0, .inputObjectType default, .inputField default 0, .unionType default,
   .scalarType default, .enumType default, .enumValue 0 0]

theorem schema_callbacks_modelled :
    sameNames Gen.schemaVisitorCallbacks (snodeSamples.flatMap (fun n => [(snodeCallbacks n).1, (snodeCallbacks n).2])) = true := by
  simp only [Gen.schemaVisitorCallbacks, snodeSamples, snodeCallbacks, List.flatMap_cons, List.flatMap_nil, List.cons_append, List.nil_append]
  refine sameNames_of_subset rfl ?_ ?_ <;> subset_lit

theorem schema_nodes_are_callbacks (n : SNode) :
    (snodeCallbacks n).1 ∈ Gen.schemaVisitorCallbacks ∧ (snodeCallbacks n).2 ∈ Gen.schemaVisitorCallbacks := by
  unfold Gen.schemaVisitorCallbacks
  cases n <;> exact ⟨by mem_lit, by mem_lit⟩

/-- the overridable method of `trait OperationTransformer` a model hook stands for -/
def hookMethod : HookId → String
  | .definition => "transform_definition"
  | .operation => "transform_operation"
  | .fragment => "transform_fragment"
  | .selectionSet => "transform_selection_set"
  | .field => "transform_field"
  | .spread => "transform_fragment_spread"
  | .inline => "transform_inline_fragment"
  | .directive => "transform_directive"
  | .argument => "transform_argument"
  | .value => "transform_value"
  | .varDef => "transform_variable_definition"

/-- the trait's methods, all accounted for: the eleven hooks, the structural methods the model
    fixes to their default behaviour, and the `default_*` bodies -/
def transformerMethodsExpected : List String :=
  ["transform_document", "default_transform_document", "transform_definition", "default_transform_definition",
   "transform_operation", "default_transform_operation", "transform_query", "default_transform_query",
   "transform_mutation", "default_transform_mutation", "transform_subscription", "default_transform_subscription",
   "transform_fragment", "default_transform_fragment", "transform_selection_set", "transform_selection",
   "default_transform_selection", "transform_field", "default_transform_field", "transform_fragment_spread",
   "default_transform_fragment_spread", "transform_inline_fragment", "default_transform_inline_fragment",
   "transform_directives", "transform_directive", "default_transform_directive", "transform_arguments",
   "transform_argument", "default_transform_argument", "transform_value", "default_transform_value",
   "transform_variable_definitions", "default_transform_variable_definitions", "transform_variable_definition",
   "default_transform_variable_definition", "transform_list"]

theorem transformer_methods_modelled : sameNames Gen.transformerMethods transformerMethodsExpected = true := by
  unfold Gen.transformerMethods transformerMethodsExpected
  refine sameNames_of_subset rfl ?_ ?_ <;> subset_lit

theorem hooks_are_methods (h : HookId) : hookMethod h ∈ Gen.transformerMethods := by
  unfold Gen.transformerMethods
  cases h <;> mem_lit

end Gql.Tie
