/-
  Thm/C17.lean — PROPERTY C17: the transformer rewrites exactly what its hooks replace and keeps
  the rest.  Hooks are the probe family of Model/Transformer.lean (each logs its invocation, runs
  the default function, and replaces the node by a recognisable rewrite when its selector hits).
-/
import GqlVerif.Lemmas.Transform
namespace Gql.C17
open Gql.Spec

/-- **Refinement**: the transformer returns `Replace (mapDocument h d)` or `Keep`, and its hook
    invocations are exactly `hookSites h d`: one per node of the hook's kind, parent before
    children, list order within every list. -/
theorem transform_char (h : Hooks) (d : Document) :
    transformDocument h d = (trOf (changedDocument h d) (mapDocument h d), hookSites h d) :=
  (char_document h d).1

theorem hook_log_eq (h : Hooks) (d : Document) : (transformDocument h d).2 = hookSites h d := by
  rw [transform_char]

theorem unchanged_id (h : Hooks) (d : Document) (hc : changedDocument h d = false) : mapDocument h d = d :=
  (char_document h d).2 hc

/-- the result applied to the input is the structural map: the input with each selected node
    replaced by what its hook returned, everything else copied -/
theorem transform_eq_mapDoc (h : Hooks) (d : Document) :
    (transformDocument h d).1.getD d = mapDocument h d := by
  rw [transform_char]
  cases hc : changedDocument h d
  · simp [unchanged_id h d hc]
  · simp

/-- if the transformer reports Keep, the denoted document is the input -/
theorem keep_unchanged (h : Hooks) (d : Document) (hk : (transformDocument h d).1.shouldKeep = true) :
    mapDocument h d = d := by
  rw [transform_char] at hk
  simp only [trOf_shouldKeep, Bool.not_eq_eq_eq_not, Bool.not_true] at hk
  exact unchanged_id h d hk

/-! ### no hook overridden: the result equals the input -/

def noHooks : Hooks := {}

@[simp] theorem nh_definition : noHooks.definition = none := rfl
@[simp] theorem nh_operation : noHooks.operation = none := rfl
@[simp] theorem nh_fragment : noHooks.fragment = none := rfl
@[simp] theorem nh_selectionSet : noHooks.selectionSet = none := rfl
@[simp] theorem nh_field : noHooks.field = none := rfl
@[simp] theorem nh_spread : noHooks.spread = none := rfl
@[simp] theorem nh_inlineFrag : noHooks.inlineFrag = none := rfl
@[simp] theorem nh_directive : noHooks.directive = none := rfl
@[simp] theorem nh_argument : noHooks.argument = none := rfl
@[simp] theorem nh_value : noHooks.value = none := rfl
@[simp] theorem nh_varDef : noHooks.varDef = none := rfl

theorem mapValue_none (v : Value) : mapValue noHooks v = v := rfl
theorem mapArg_none (a : Arg) : mapArg noHooks a = a := rfl
theorem mapDirective_none (d : Directive) : mapDirective noHooks d = d :=
  congrArg (Directive.mk d.pos d.name) (List.map_id'' mapArg_none d.args)
theorem mapVarDef_none (v : VarDef) : mapVarDef noHooks v = v := by
  cases v with | mk pos name ty dflt => cases dflt <;> rfl

theorem mapSelections_none_all : (∀ x : Selection, mapSelection noHooks x = x) ∧ ∀ l : List Selection, mapSelections noHooks l = l := by
  refine sels_induction ?_ ?_ ?_ rfl fun x xs hx hxs => by rw [mapSelections, hx, hxs]
  · intro pos alias name args dirs sel ih
    rw [mapSelection, List.map_id'' mapArg_none, List.map_id'' mapDirective_none, ih]
    rfl
  · intro pos name dirs
    rw [mapSelection, List.map_id'' mapDirective_none]
    rfl
  · intro pos tc dirs sel ih
    rw [mapSelection, List.map_id'' mapDirective_none, ih]
    rfl

theorem mapSelection_none : ∀ x : Selection, mapSelection noHooks x = x := mapSelections_none_all.1

theorem mapDefinition_none (x : Definition) : mapDefinition noHooks x = x := by
  cases x with
  | op o =>
    refine congrArg Definition.op (?_ : mapOperation noHooks o = o)
    unfold mapOperation mapSelSet
    rw [mapSelections_none_all.2, List.map_id'' mapVarDef_none, List.map_id'' mapDirective_none]
    exact ite_self _
  | frag f =>
    refine congrArg Definition.frag (?_ : mapFragment noHooks f = f)
    unfold mapFragment mapSelSet
    rw [mapSelections_none_all.2, List.map_id'' mapDirective_none]
    rfl

/-- **Transforming a document with no hook overridden yields a document equal to the input**
    (the transformer may still answer Replace: the default fragment-spread function always does) -/
theorem transform_default_id (d : Document) : (transformDocument noHooks d).1.getD d = d := by
  rw [transform_eq_mapDoc]
  exact List.map_id'' mapDefinition_none d

/-- no hook is invoked when none is overridden -/
theorem transform_default_log (d : Document) : (transformDocument noHooks d).2 = [] := by
  rw [hook_log_eq]
  have nil {α : Type} {f : α → List LogEntry} (hf : ∀ x, f x = []) (l : List α) : l.flatMap f = [] :=
    List.flatMap_eq_nil_iff.2 fun x _ => hf x
  have hd (ds : List Directive) : ds.flatMap (sitesDirective noHooks) = [] := nil (f := sitesDirective noHooks) (fun x => nil (f := sitesArg noHooks) (fun _ => rfl) x.args) ds
  have hvd (vs : List VarDef) : vs.flatMap (sitesVarDef noHooks) = [] :=
    nil (f := sitesVarDef noHooks) (fun v => by cases v with | mk p n t dv => cases dv <;> rfl) vs
  have hsel : (∀ x, sitesSelection noHooks x = []) ∧ ∀ l, sitesSelections noHooks l = [] :=
    sels_induction
      (fun _ _ _ args dirs _ ih => List.append_eq_nil_iff.2 ⟨List.append_eq_nil_iff.2 ⟨ih, nil (f := sitesArg noHooks) (fun _ => rfl) args⟩, hd dirs⟩)
      (fun _ _ dirs => hd dirs) (fun _ _ dirs _ ih => List.append_eq_nil_iff.2 ⟨ih, hd dirs⟩) rfl
      (fun _ _ hx hxs => List.append_eq_nil_iff.2 ⟨hx, hxs⟩)
  refine nil (fun x => ?_) d
  cases x with
  | op o => simp [sitesDefinition, sitesOperation, sitesSelSet, siteOpt, hsel.2, hd, hvd]
  | frag f => simp [sitesDefinition, sitesFragment, sitesSelSet, siteOpt, hsel.2, hd]

/-! ### `transform_list` (all Keep/Replace patterns, any length) -/

/-- Keep iff every item is kept; otherwise item `i` of the result is the replacement of item `i`
    if there is one and a copy of item `i` otherwise (so: same length, same order); the item
    function is called once per item, in list order. -/
theorem transformList_items {α : Type} (f : α → W (Tr α)) (l : List α) :
    transformList f l =
      (if l.all (fun x => (f x).1.shouldKeep) then .keep else .replace (l.map fun x => (f x).1.getD x),
       l.flatMap fun x => (f x).2) := by
  rw [List.all_eq_not_any_not, trOf_not]
  refine transformList_spec f _ (fun x => !(f x).1.shouldKeep) _ (fun x => ?_) (fun x hx => ?_) l
  · cases hx : (f x).1 <;> exact Prod.ext hx rfl
  · cases hfx : (f x).1
    · rfl
    · rw [hfx] at hx; cases hx

/-! ### structure that the map preserves -/
theorem mapDocument_length (h : Hooks) (d : Document) : (mapDocument h d).length = d.length := by
  simp [mapDocument]

/-! Non-vacuity: a field probe that hits renames exactly that field -/
example :
    (transformDocument { field := some ⟨1, 0, 99, false⟩ } [.op ⟨.shorthand, ⟨0, 0⟩, none, [], [], [.field ⟨1, 3⟩ none 20 [] [] []]⟩]).1.getD []
      = [.op ⟨.shorthand, ⟨0, 0⟩, none, [], [], [.field ⟨1, 3⟩ none 99 [] [] []]⟩] := by rfl

/-! Non-vacuity: a value probe answering `null` for a variable default yields the definition with default `null`, not without default -/
example :
    (transformVariableDefinition { value := some ⟨1, 0, 99, true⟩ } ⟨⟨1, 8⟩, 20, .named 3, some (.int 1)⟩).1.getD default
      = ⟨⟨1, 8⟩, 20, .named 3, some .null⟩ := by rfl

end Gql.C17
