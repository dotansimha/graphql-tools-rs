/-
  Thm/C14d.lean — PROPERTY C14, permuting the selections within selection sets: for 23 of the 24
  rules (all but 'single field subscriptions'), which rules report is the same for a document and
  for the document with the selections of any of its selection sets reordered (`DocRel`,
  Lemmas/SelPermSpec.lean) - fields, fragment spreads and inline fragments permuted within the set
  they belong to, at every depth.  Proved on the spec side: `DocRel` is an instance of `DocSim`
  (`DocRel.docSim`, Lemmas/SelPermFinal.lean), transported by the iff theorems; the field-merging
  rule is `C05.merge_order_independent`.
-/
import GqlVerif.Lemmas.SelPermRules
import GqlVerif.Thm.C05d
namespace Gql.C14
open Gql.Spec

section
variable {s : Schema} {d d' : Document}

theorem violates_selrel_mp (hq : s.queryType.isSome = true) (h : DocRel d d') (r : RuleId)
    (h1 : r ≠ .overlappingFieldsCanBeMerged) (h2 : r ≠ .singleFieldSubscriptions)
    (hv : C01.Violates r s d) : C01.Violates r s d' := by
  have hc := opNames_congr (.of_eq (opNames_rel h))
  exact h.docSim.violates_mp hq hc.1.1 hc.2.1
    (h.docSim.badVariablePosition_of_vars fun o ho => let ⟨sel, hs, hm⟩ := opsRel h o ho; ⟨o.name, sel, hs, hm⟩) r h1 h2 hv

theorem violates_selrel (hq : s.queryType.isSome = true) (h : DocRel d d') (r : RuleId)
    (h1 : r ≠ .overlappingFieldsCanBeMerged) (h2 : r ≠ .singleFieldSubscriptions) :
    C01.Violates r s d ↔ C01.Violates r s d' :=
  ⟨violates_selrel_mp hq h r h1 h2, violates_selrel_mp hq h.symm r h1 h2⟩

/-- **C14, selections.**  Which of the 23 rules other than 'single field subscriptions' report is the
    same for a document and for the document with the selections of its selection sets reordered. -/
theorem fires_selrel (hs : C01.SchemaOk s) (hd : C01.DocOk d) (h : DocRel d d')
    (hn : (d.fragments.map (·.name)).Nodup) (hao : AODoc d) (ht : TcKnown s d) (hac : ¬ FragmentCycle d) (r : RuleId)
    (h2 : r ≠ .singleFieldSubscriptions) : fires r s d ↔ fires r s d' := by
  by_cases h1 : r = .overlappingFieldsCanBeMerged
  · subst h1; exact C05.merge_order_independent s hs.queryRoot h hao ht hac
  · exact h.docSim.fires hs hn r h1 (violates_selrel hs.queryRoot h r h1 h2)

end
end Gql.C14
