/-
  Thm/C13.lean — PROPERTY C13: a plan's result is the in-order union of its rules' results;
  every error carries the code of the rule that produced it; the default plan contains each of
  the 24 rules exactly once (Gen/DefaultPlan.lean, regenerated from defaults.rs on every run).
-/
import GqlVerif.Lemmas.Visit
import GqlVerif.Lemmas.Rules
import GqlVerif.Gen.DefaultPlan
import GqlVerif.Gen.ErrorCodes
namespace Gql.C13

/-- with a balanced visitor, running a plan over the shared context is running each rule on the
    same callback trace -/
theorem runPlan_eq_map (s : Schema) (d : Document) (v : V) (hv : visitDocument s d = some v)
    (plan : List RuleId) (st : Stacks) :
    runPlan s d v plan st = plan.map fun r => (ruleOf r).runOn s d (v st).2 := by
  have hl := visitDocument_lexical s d
  rw [hv] at hl
  induction plan with
  | nil => simp [runPlan]
  | cons r rs ih =>
    obtain ⟨t, _, hst⟩ := hl st
    simp only [runPlan, List.map_cons, hst]
    rw [ih]
    simp [hst]

theorem validate_single (s : Schema) (d : Document) (r : RuleId) :
    validate s d [r] = (visitDocument s d).map fun v => (ruleOf r).runOn s d (v Stacks.empty).2 := by
  cases hv : visitDocument s d with
  | none => simp [validate, validateGrouped, hv]
  | some v => simp [validate, validateGrouped, hv, runPlan]

/-- **A plan's result is the in-order union of its rules' results**: grouped per plan entry, group
    `i` is exactly what rule `plan[i]` returns when run alone on the same input. -/
theorem validateGrouped_eq_singles (s : Schema) (d : Document) (plan : List RuleId) (v : V)
    (hv : visitDocument s d = some v) :
    validateGrouped s d plan = some (plan.map fun r => (validate s d [r]).getD []) := by
  cases plan with
  | nil => simp [validateGrouped]
  | cons r rs =>
    simp only [validateGrouped, hv, Option.map_some, runPlan_eq_map s d v hv]
    congr 1
    simp [validate_single, hv]

/-- the only way not to return: the `query_type().unwrap()` panic, and then every non-empty plan
    (hence every single rule) panics alike -/
theorem validate_none_iff (s : Schema) (d : Document) (plan : List RuleId) (hne : plan ≠ []) :
    validate s d plan = none ↔ visitDocument s d = none := by
  cases plan with
  | nil => exact absurd rfl hne
  | cons r rs => cases hv : visitDocument s d <;> simp [validate, validateGrouped, hv]

/-- flat version: the returned list is the concatenation, in plan order, of the single-rule results -/
theorem validate_eq_flatMap_single (s : Schema) (d : Document) (plan : List RuleId) (v : V)
    (hv : visitDocument s d = some v) :
    validate s d plan = some (plan.flatMap fun r => (validate s d [r]).getD []) := by
  show (validateGrouped s d plan).map List.flatten = _
  rw [validateGrouped_eq_singles s d plan v hv]
  rfl

theorem validate_append (s : Schema) (d : Document) (p q : List RuleId) (v : V)
    (hv : visitDocument s d = some v) :
    validate s d (p ++ q) = some ((validate s d p).getD [] ++ (validate s d q).getD []) := by
  rw [validate_eq_flatMap_single s d (p ++ q) v hv, validate_eq_flatMap_single s d p v hv,
    validate_eq_flatMap_single s d q v hv]
  simp

theorem foldl_inv {α β : Type} (P : β → Prop) (f : β → α → β) (l : List α) (b : β)
    (hb : P b) (hf : ∀ b a, a ∈ l → P b → P (f b a)) : P (l.foldl f b) :=
  foldl_inv_mem P l b hb fun b a ha hb => hf b a ha hb

theorem detectCycles_codes (d : Document) :
    ∀ (n : Nat) (frag : FragDef) (path : List SpreadNode) (idx : List (Name × Nat)) (st : CycleState),
      AllCode .noFragmentsCycle st.errs → AllCode .noFragmentsCycle (detectCycles d n frag path idx st).errs := by
  intro n
  induction n with
  | zero => intro frag path idx st h; simpa [detectCycles] using h
  | succ n ih =>
    intro frag path idx st h
    simp only [detectCycles]
    split
    · exact h
    · split
      · exact h
      · apply foldl_inv (fun st : CycleState => AllCode .noFragmentsCycle st.errs)
        · exact h
        · intro b a _ hb
          simp only [cycleStep]
          split
          · split
            · exact ih _ _ _ _ hb
            · exact hb
          · simp [hb, cycleError]

theorem validateValue_errs (s : Schema) (sn : Snap) (v : Value) :
    ∀ x ∈ validateValue s sn v, x.code = .valuesOfCorrectType ∧ x.locs = [] := by
  unfold validateValue
  cases sn.inpLit with
  | none => simp
  | some t =>
    cases h : s.typeByName t.inner with
    | none => simp [h]
    | some td =>
      simp only [h, List.forall_mem_append]
      refine ⟨by split <;> simp, ?_⟩
      repeat' split
      all_goals simp

theorem validateCompositeValue_errs (s : Schema) (sn : Snap) (v : Value) :
    ∀ x ∈ validateCompositeValue s sn v, x.code = .valuesOfCorrectType ∧ x.locs = [] := by
  unfold validateCompositeValue
  cases sn.inpLit with
  | none => simp
  | some t =>
    cases h : s.typeByName t.inner with
    | none => simp [h]
    | some td => simp only [h]; split <;> simp

theorem duplicateDirectiveErrors_codes (s : Schema) : ∀ (ds : List Directive) (seen : List Name),
    AllCode .uniqueDirectivesPerLocation (duplicateDirectiveErrors s ds seen)
  | [], _ => by simp [duplicateDirectiveErrors]
  | _ :: ds, _ => by
      simp only [duplicateDirectiveErrors]
      repeat' split
      all_goals simp [duplicateDirectiveErrors_codes s ds]

theorem vipCheck_codes (s : Schema) (defs : List VarDef) (u : Name × Ty) :
    AllCode .variablesInAllowedPosition (vipCheck s defs u) := by
  simp only [vipCheck]
  repeat' split
  all_goals simp

/-- the six rules whose errors are located elsewhere than at the node entered -/
def nonLocal : RuleId → Bool
  | .loneAnonymousOperation | .uniqueVariableNames | .uniqueDirectivesPerLocation | .noFragmentsCycle
  | .overlappingFieldsCanBeMerged | .variablesInAllowedPosition => true
  | _ => false

/-- 'values of correct type' reports errors of its own code, without location -/
theorem voc_errs (s : Schema) (d : Document) (σ : valuesOfCorrectType.σ) (e : Ev × Snap) :
    ∀ x ∈ (valuesOfCorrectType.on s d σ e).2, x.code = .valuesOfCorrectType ∧ x.locs = [] := by
  have hv1 := fun sn v x hx => (validateValue_errs s sn v x hx).1
  have hv2 := fun sn v x hx => (validateValue_errs s sn v x hx).2
  have hc1 := fun sn v x hx => (validateCompositeValue_errs s sn v x hx).1
  have hc2 := fun sn v x hx => (validateCompositeValue_errs s sn v x hx).2
  obtain ⟨ev, sn⟩ := e
  intro x hx
  cases ev with
  | leave n => cases hx
  | enter n =>
    cases n <;> first
      | cases hx
      | (simp [valuesOfCorrectType, Rule.stateless] at hx
         grind)

/-- What the handlers of the other eighteen rules build: errors with the rule's own code, located at
    the node entered or nowhere. -/
theorem on_local (r : RuleId) (hr : nonLocal r = false) (s : Schema) (d : Document) (σ : (ruleOf r).σ) (e : Ev × Snap) :
    ∀ x ∈ ((ruleOf r).on s d σ e).2, x.code = r ∧ ∀ p ∈ x.locs, e.1.pos? = some p := by
  intro x hx
  cases r
  case valuesOfCorrectType =>
    exact ⟨(voc_errs s d σ e x hx).1, fun p hp => by rw [(voc_errs s d σ e x hx).2] at hp; cases hp⟩
  all_goals first | cases hr | skip
  -- unfold the handler and look, on each branch of its case analysis, at the errors it builds
  all_goals
    simp only [ruleOf, Rule.stateless, collRule, uniqueOperationNames, singleFieldSubscriptions, knownTypeNames,
      unknownTypeErr, fragmentsOnCompositeTypes, variablesAreInputTypes, leafFieldSelections, fieldsOnCorrectType,
      uniqueFragmentNames, knownFragmentNames, noUnusedFragments, possibleFragmentSpreads, knownArgumentNames,
      kaArgCheck, uniqueArgumentNames, duplicateArgErrors, providedRequiredArguments, knownDirectives,
      noUnusedVariables, noUndefinedVariables, unusedReport, undefinedReport] at hx
    repeat' split at hx
    all_goals first | exact absurd hx List.not_mem_nil | (simp at hx; grind [Ev.pos?, Node.pos?])

theorem on_codes (s : Schema) (d : Document) (r : RuleId) (σ : (ruleOf r).σ) (e : Ev × Snap) :
    AllCode r ((ruleOf r).on s d σ e).2 := by
  cases r
  case noFragmentsCycle =>
    simp only [ruleOf, noFragmentsCycle]
    split
    · exact detectCycles_codes d _ _ _ _ _ (by simp)
    · simp
  case loneAnonymousOperation | overlappingFieldsCanBeMerged | uniqueVariableNames | variablesInAllowedPosition
      | uniqueDirectivesPerLocation =>
    simp only [ruleOf, Rule.stateless, collRule, loneAnonymousOperation, overlappingFieldsCanBeMerged, uniqueVariableNames,
      variablesInAllowedPosition, vipReport, uniqueDirectivesPerLocation, udCheck]
    repeat' split
    all_goals simp [vipCheck_codes, duplicateDirectiveErrors_codes]
  all_goals exact fun x hx => (on_local _ rfl s d σ e x hx).1

theorem finish_codes (s : Schema) (d : Document) (r : RuleId) (σ : (ruleOf r).σ) :
    AllCode r ((ruleOf r).finish s d σ) := by
  -- only the two uniqueness rules of names report at the end
  cases r <;> first | exact allCode_nil _ | simp [ruleOf, uniqueOperationNames, uniqueFragmentNames]

/-- **Every error carries the code of the rule that produced it** (for any callback trace). -/
theorem codes (s : Schema) (d : Document) (r : RuleId) (tr : Trace) :
    ∀ e ∈ (ruleOf r).runOn s d tr, e.code = r :=
  runOn_all (ruleOf r) s d (fun e => e.code = r) (fun σ e => on_codes s d r σ e)
    (fun σ => finish_codes s d r σ) tr

theorem validate_codes_in_plan (s : Schema) (d : Document) (plan : List RuleId) (errs : List Err)
    (h : validate s d plan = some errs) : ∀ e ∈ errs, e.code ∈ plan := by
  cases hv : visitDocument s d with
  | none =>
    cases plan with
    | nil => simp [validate, validateGrouped] at h; subst h; simp
    | cons r rs => simp [validate, validateGrouped, hv] at h
  | some v =>
    rw [validate_eq_flatMap_single s d plan v hv] at h
    simp only [Option.some.injEq] at h
    subst h
    intro e he
    simp only [List.mem_flatMap] at he
    obtain ⟨r, hr, he⟩ := he
    rw [validate_single, hv] at he
    simp only [Option.map_some, Option.getD_some] at he
    rw [codes s d r _ e he]
    exact hr

theorem defaultPlan_nodup : Gen.defaultPlan.Nodup := by decide
theorem defaultPlan_length : Gen.defaultPlan.length = 24 := by decide
theorem defaultPlan_complete : ∀ r : RuleId, r ∈ Gen.defaultPlan := by
  intro r; cases r <;> decide
/-- the order the model's `RuleId.all` uses is the order of defaults.rs -/
theorem defaultPlan_eq_all : Gen.defaultPlan = RuleId.all := by decide

/-- every rule's `error_code()` literal is its own name (one entry per rule) -/
theorem errorCodes_identity : ∀ p ∈ Gen.errorCodes, p.1 = p.2 := by decide
theorem errorCodes_cover : ∀ r : RuleId, (Gen.errorCodes.filter fun p => p.1 == r).length = 1 := by
  intro r; cases r <;> decide

end Gql.C13
