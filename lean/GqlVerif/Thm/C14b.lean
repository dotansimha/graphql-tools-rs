/-
  Thm/C14b.lean — PROPERTY C14, the schema side: permuting the definitions of the schema changes
  nothing.  For every schema with unique type and directive names and at most one `schema { … }`
  block, every permutation of its definitions, every document (valid or not, cyclic or not) and
  every plan, `validate` returns the same list of errors in the same order — all 24 rules, the
  field-merging rule included; in particular accept/reject and the set of rules that report are
  the same.  (Permutations *inside* a definition — fields, enum values, union members, interface
  lists — change the `TypeDef` values the context hands to the rules and are explored by the
  metamorphic run, not proved.)
-/
import GqlVerif.Lemmas.SchemaPerm
import GqlVerif.Thm.C14
namespace Gql.C14
open Gql.Spec

/-- **C14, schema definitions.**  The result of validation does not depend on the order of the
    schema's definitions. -/
theorem validate_schema_perm {s s' : Schema} (h : s.Perm s') (hu : SchemaUniq s) (hq : s.queryType.isSome = true)
    (d : Document) (plan : List RuleId) : validate s d plan = validate s' d plan :=
  agree_validate (agree_of_perm h hu) hq d plan

theorem errsOf_schema_perm {s s' : Schema} (h : s.Perm s') (hu : SchemaUniq s) (r : RuleId) (d : Document) :
    errsOf r s d = errsOf r s' d :=
  agree_errsOf (agree_of_perm h hu) r d

theorem fires_schema_perm {s s' : Schema} (h : s.Perm s') (hu : SchemaUniq s) (r : RuleId) (d : Document) :
    fires r s d ↔ fires r s' d := by
  unfold fires; rw [errsOf_schema_perm h hu r d]

/-- C16 under the rewrite: the callbacks, with every context answer, are the same -/
theorem walkOf_schema_perm {s s' : Schema} (h : s.Perm s') (hu : SchemaUniq s) (d : Document) : walkOf s d = walkOf s' d :=
  agree_walkOf (agree_of_perm h hu) d

/-- the hypotheses are met by a schema of `C01`'s form: a well-formed schema has unique names -/
theorem schemaUniq_of_ok {s : Schema} (hs : C01.SchemaOk s) (h1 : s.schemaBlocks.length ≤ 1) : SchemaUniq s :=
  ⟨hs.typeNames, hs.directiveNames, h1⟩

/-- non-vacuity: a schema with a `schema` block, two types and a directive, and its reversal -/
def exS : Schema :=
  [.schema ⟨some 0, none, none⟩, .type (.object 0 [] [⟨100, [], .named 6⟩]), .type (.scalar 6), .directive ⟨200, false, [.field], []⟩]

example : SchemaUniq exS ∧ exS.Perm exS.reverse ∧ exS.queryType.isSome = true := by
  refine ⟨⟨by decide, by decide, by decide⟩, (List.reverse_perm _).symm, by decide⟩

end Gql.C14
