/-
  Thm/C13b.lean — PROPERTY C13, the clause on locations: every location of every error any rule
  reports is the position of a node of the validated document (`locations_in_document`), for all
  24 rules, every schema with a query root and every document.
-/
import GqlVerif.Lemmas.PositionsMerge
import GqlVerif.Thm.C13
import GqlVerif.Thm.C03
namespace Gql.C13
open Gql.Spec

def LocOk (d : Document) (x : Err) : Prop := ∀ p ∈ x.locs, p ∈ docPositions d

/-- errors raised at an `enter` callback are located at the node entered (or nowhere); `leave`
    callbacks and the final step raise none with a location -/
def LocalLoc (r : Rule) : Prop :=
  (∀ s d σ e, ∀ x ∈ (r.on s d σ e).2, ∀ p ∈ x.locs, e.1.pos? = some p) ∧
  (∀ s d σ, ∀ x ∈ r.finish s d σ, x.locs = [])

theorem locs_of_walk (r : Rule) (s : Schema) (d : Document) (hfin : ∀ σ, ∀ x ∈ r.finish s d σ, x.locs = [])
    (hon : ∀ σ, ∀ e ∈ walkOf s d, ∀ x ∈ (r.on s d σ e).2, LocOk d x) : ∀ x ∈ r.runOn s d (walkOf s d), LocOk d x :=
  runOn_inv r s d (fun _ => True) (LocOk d) _ trivial (fun σ _ e he => ⟨trivial, hon σ e he⟩)
    (fun σ _ x hx p hp => by rw [hfin σ x hx] at hp; cases hp)

theorem locs_of_localLoc (r : Rule) (hl : LocalLoc r) (s : Schema) (d : Document) (hq : s.queryType.isSome = true) :
    ∀ x ∈ r.runOn s d (walkOf s d), LocOk d x := by
  refine locs_of_walk r s d (hl.2 s d) fun σ e he x hx p hp => ?_
  have hpos := hl.1 s d σ e x hx p hp
  obtain ⟨ev, sn⟩ := e
  cases ev with
  | enter n => exact pos_of_walk s d hq he hpos
  | leave n => cases hpos

theorem localLoc_ruleOf (r : RuleId) (hr : nonLocal r = false) : LocalLoc (ruleOf r) := by
  refine ⟨fun s d σ e x hx => (on_local r hr s d σ e x hx).2, fun s d σ x hx => ?_⟩
  cases r <;> first | cases hx | (simp [ruleOf, uniqueOperationNames, uniqueFragmentNames] at hx; grind)

/-- 'lone anonymous operation' reports, at the document callback, the positions of operations -/
theorem loc_loneAnonymous (s : Schema) (d : Document) (hq : s.queryType.isSome = true) :
    ∀ x ∈ loneAnonymousOperation.runOn s d (walkOf s d), LocOk d x := by
  refine locs_of_walk _ s d (fun _ _ hx => absurd hx List.not_mem_nil) fun σ e he x hx p hp => ?_
  obtain ⟨ev, sn⟩ := e
  cases ev with
  | leave n => cases hx
  | enter n =>
    cases n with
    | document d' =>
      simp [loneAnonymousOperation, Rule.stateless] at hx
      have hd : d' = d := (enter_document_in_walk s d hq d').1 ⟨sn, he⟩
      subst hd
      obtain ⟨o, ho, _, rfl⟩ := hx
      split at hp
      · cases hp
      · simp only [List.mem_singleton] at hp
        subst hp
        obtain ⟨env, henv⟩ := (enter_operation_in_walk s d' hq o).2 ho
        exact pos_of_walk s d' hq henv rfl
    | _ => cases hx

/-- 'unique variable names' remembers positions of variable definitions it has seen -/
theorem loc_uniqueVariableNames (s : Schema) (d : Document) (hq : s.queryType.isSome = true) :
    ∀ x ∈ uniqueVariableNames.runOn s d (walkOf s d), LocOk d x := by
  refine runOn_inv _ s d (fun (found : List (Name × Pos)) => ∀ q ∈ found, q.2 ∈ docPositions d) (LocOk d) _
    (by intro q h; simp [uniqueVariableNames] at h) ?_ (by intro σ _ x hx; simp [uniqueVariableNames] at hx)
  intro found hinv e he
  obtain ⟨ev, sn⟩ := e
  cases ev with
  | leave n => exact ⟨hinv, fun _ h => nomatch h⟩
  | enter n =>
    cases n with
    | operation o => exact ⟨fun _ h => (nomatch h), fun _ h => nomatch h⟩
    | varDef v =>
      have hv : v.pos ∈ docPositions d := pos_of_walk s d hq he rfl
      simp only [uniqueVariableNames]
      split
      · rename_i p hg
        refine ⟨hinv, ?_⟩
        intro x hx p' hp'
        simp only [List.mem_singleton] at hx
        subst hx
        simp only [List.mem_cons, List.not_mem_nil, or_false] at hp'
        rcases hp' with rfl | rfl
        · exact hinv (v.name, p') (mem_of_alGet found v.name p' hg)
        · exact hv
      · refine ⟨?_, by intro x hx; simp at hx⟩
        intro q hq'
        have hq2 : q ∈ (show List (Name × Pos) from found) ++ [(v.name, v.pos)] := hq'
        rcases List.mem_append.1 hq2 with hq3 | hq3
        · exact hinv q hq3
        · rw [List.mem_singleton.1 hq3]; exact hv
    | _ => exact ⟨hinv, fun _ h => nomatch h⟩

theorem dupDir_locs (s : Schema) : ∀ (ds : List Directive) (seen : List Name), ∀ x ∈ duplicateDirectiveErrors s ds seen,
    ∀ p ∈ x.locs, ∃ dir ∈ ds, p = dir.pos
  | [], _, x, hx, _, _ => by simp [duplicateDirectiveErrors] at hx
  | dir :: rest, seen, x, hx, p, hp => by
      simp only [duplicateDirectiveErrors] at hx
      have lift : ∀ seen', x ∈ duplicateDirectiveErrors s rest seen' → ∃ dir' ∈ dir :: rest, p = dir'.pos := by
        intro seen' h
        obtain ⟨dir', hd', hp'⟩ := dupDir_locs s rest seen' x h p hp
        exact ⟨dir', by simp [hd'], hp'⟩
      split at hx
      · split at hx
        · split at hx
          · rcases List.mem_cons.1 hx with rfl | hx
            · simp only [List.mem_singleton] at hp
              exact ⟨dir, by simp, hp⟩
            · exact lift _ hx
          · exact lift _ hx
        · exact lift _ hx
      · exact lift _ hx

/-- 'unique directives per location' reports at the positions of the entered node's directives -/
theorem loc_uniqueDirectives (s : Schema) (d : Document) (hq : s.queryType.isSome = true) :
    ∀ x ∈ uniqueDirectivesPerLocation.runOn s d (walkOf s d), LocOk d x := by
  refine locs_of_walk _ s d (fun _ _ hx => absurd hx List.not_mem_nil) fun σ e he x hx p hp => ?_
  obtain ⟨ev, sn⟩ := e
  have hT := enter_of_walk s d hq he
  have fin : ∀ (n : Node) (ds : List Directive), ev = .enter n → n.dirs = ds → x ∈ duplicateDirectiveErrors s ds [] → p ∈ docPositions d := by
    intro n ds hev hds hx'
    obtain ⟨dir, hdir, rfl⟩ := dupDir_locs s ds [] x hx' p hp
    subst hev
    exact pos_of_enter (dirsIn_document d n hT dir (hds ▸ hdir)) rfl
  cases ev with
  | leave n => cases hx
  | enter n => cases n <;> first | cases hx | exact fin _ _ rfl rfl hx

/-- the cycle search reports positions of spreads inside fragment definitions of the document -/
theorem detectCycles_locs (d : Document) : ∀ (n : Nat) (frag : FragDef) (path : List SpreadNode) (idx : List (Name × Nat)) (st : CycleState),
    Incl d frag.sel → (∀ sp ∈ path, sp.pos ∈ docPositions d) → (∀ x ∈ st.errs, LocOk d x) →
      ∀ x ∈ (detectCycles d n frag path idx st).errs, LocOk d x := by
  intro n
  induction n with
  | zero => intro frag path idx st _ _ h; simpa [detectCycles] using h
  | succ n ih =>
    intro frag path idx st hin hpath h
    simp only [detectCycles]
    split
    · exact h
    · split
      · exact h
      · have key : ∀ (L : List SpreadNode), (∀ sp ∈ L, sp ∈ recursiveSpreads frag.sel) → ∀ st' : CycleState, (∀ x ∈ st'.errs, LocOk d x) →
            ∀ x ∈ (L.foldl (cycleStep d (detectCycles d n) path (alInsert idx frag.name path.length)) st').errs, LocOk d x := by
          intro L
          induction L with
          | nil => intro _ st' h'; exact h'
          | cons sp L ihL =>
            intro hsub st' h'
            simp only [List.foldl_cons]
            refine ihL (fun x hx => hsub x (by simp [hx])) _ ?_
            have hsp : sp.pos ∈ docPositions d :=
              pos_of_enter (hin _ (spread_traversed_sels frag.sel sp (hsub sp (by simp)))) rfl
            have hpath' : ∀ q ∈ path ++ [sp], q.pos ∈ docPositions d := by
              intro q hq'
              simp only [List.mem_append, List.mem_singleton] at hq'
              rcases hq' with hq' | rfl
              · exact hpath q hq'
              · exact hsp
            simp only [cycleStep]
            split
            · split
              · rename_i fd hfd
                exact ih fd _ _ st' (incl_fragByName d _ fd hfd) hpath' h'
              · exact h'
            · intro x hx
              simp only [List.mem_append, List.mem_singleton] at hx
              rcases hx with hx | rfl
              · exact h' x hx
              · intro p hp
                simp only [cycleError, List.mem_map] at hp
                obtain ⟨q, hq', rfl⟩ := hp
                exact hpath' q (List.mem_of_mem_drop hq')
        exact key _ (fun _ h => h) _ (by simpa using h)

theorem loc_noFragmentsCycle (s : Schema) (d : Document) (hq : s.queryType.isSome = true) :
    ∀ x ∈ noFragmentsCycle.runOn s d (walkOf s d), LocOk d x := by
  refine locs_of_walk _ s d (fun _ _ hx => absurd hx List.not_mem_nil) fun σ e he => ?_
  obtain ⟨ev, sn⟩ := e
  cases ev with
  | leave n => intro x hx; simp [noFragmentsCycle] at hx
  | enter n =>
    cases n with
    | fragmentDef f =>
      simp only [noFragmentsCycle]
      have hf : f ∈ d.fragments := (enter_fragmentDef_in_walk s d hq f).1 ⟨sn, he⟩
      exact detectCycles_locs d _ f [] [] _ (incl_fragment d f hf) (by simp) (by simp)
    | _ => intro x hx; simp [noFragmentsCycle] at hx

/-- the field-merging rule reports positions of fields it collected -/
theorem loc_merge (s : Schema) (d : Document) (hq : s.queryType.isSome = true) :
    ∀ x ∈ overlappingFieldsCanBeMerged.runOn s d (walkOf s d), LocOk d x := by
  refine locs_of_walk _ s d (fun _ _ hx => absurd hx List.not_mem_nil) fun σ e he => ?_
  obtain ⟨ev, sn⟩ := e
  cases ev with
  | leave n => intro x hx; simp [overlappingFieldsCanBeMerged] at hx
  | enter n =>
    cases n with
    | selectionSet sel =>
      intro x hx
      simp only [overlappingFieldsCanBeMerged, List.mem_map] at hx
      obtain ⟨c, hc, rfl⟩ := hx
      exact selset_positions s d _ _ sel _ (incl_of_walk s d hq he) c hc
    | _ => intro x hx; simp [overlappingFieldsCanBeMerged] at hx

theorem addItems_defs {ι : Type} (st : Coll ι) (sc : Scope) (its : List ι) : (st.addItems sc its).defs = st.defs := by
  unfold Coll.addItems
  cases its <;> rfl

/-- only the operation and variable-definition callbacks touch the collected definitions -/
theorem Coll.on_defs {ι : Type} (itemsOf : Ev × Snap → List ι) (st : Coll ι) (ev : Ev) (sn : Snap)
    (ho : ∀ o, ev ≠ .enter (.operation o)) (hv : ∀ v, ev ≠ .enter (.varDef v)) : (st.on itemsOf (ev, sn)).defs = st.defs := by
  unfold Coll.on
  split
  · exact absurd ‹_› (ho _)
  · rfl
  · cases st.scope <;> rfl
  · exact absurd ‹_› (hv _)
  · cases st.scope with
    | none => rfl
    | some sc => exact addItems_defs st sc _

/-- 'variables in allowed position' reports the position of a variable definition it has collected -/
theorem loc_vip (s : Schema) (d : Document) (hq : s.queryType.isSome = true) :
    ∀ x ∈ variablesInAllowedPosition.runOn s d (walkOf s d), LocOk d x := by
  refine runOn_inv _ s d (fun (st : Coll (Name × Ty)) => ∀ q ∈ st.defs, ∀ v ∈ q.2, v.pos ∈ docPositions d) (LocOk d) _
    (fun _ h => nomatch h) ?_ (fun _ _ _ h => nomatch h)
  intro st hinv e he
  obtain ⟨ev, sn⟩ := e
  simp only [variablesInAllowedPosition, collRule]
  have idle (ho : ∀ o, ev ≠ .enter (.operation o)) (hv : ∀ v, ev ≠ .enter (.varDef v)) :
      ∀ q ∈ (st.on varUsage (ev, sn)).defs, ∀ v ∈ q.2, v.pos ∈ docPositions d := by
    rw [Coll.on_defs _ st ev sn ho hv]; exact hinv
  cases ev with
  | leave n =>
    have hd := idle (fun _ h => nomatch h) (fun _ h => nomatch h)
    cases n with
    | document d' =>
      refine ⟨hinv, ?_⟩
      intro x hx p hp
      simp only [vipReport, List.mem_flatMap] at hx
      obtain ⟨q, hq', u, _, hx⟩ := hx
      simp only [vipCheck] at hx
      split at hx
      · rename_i vd hvd
        split at hx
        · simp only [List.mem_singleton] at hx
          subst hx
          simp only [List.mem_singleton] at hp
          subst hp
          exact hinv q hq' vd (List.mem_of_find?_eq_some hvd)
        · cases hx
      · cases hx
    | _ => exact ⟨hd, fun _ h => nomatch h⟩
  | enter n =>
    refine ⟨?_, by intro x hx; cases hx⟩
    cases n with
    | operation o =>
      simp only [Coll.on]
      intro q hq' v hv
      simp only [List.mem_append, List.mem_singleton] at hq'
      rcases hq' with hq' | rfl
      · exact hinv q hq' v hv
      · cases hv
    | varDef v =>
      have hv : v.pos ∈ docPositions d := pos_of_walk s d hq he rfl
      simp only [Coll.on]
      cases hsc : st.scope with
      | none => exact hinv
      | some sc =>
        cases sc with
        | frag _ => exact hinv
        | op i nm =>
          intro q hq' w hw
          simp only at hq'
          unfold alUpdate at hq'
          split at hq'
          · simp only [List.mem_map] at hq'
            obtain ⟨q0, hq0, rfl⟩ := hq'
            split at hw
            · simp only [List.mem_append, List.mem_singleton] at hw
              rcases hw with hw | rfl
              · exact hinv q0 hq0 w hw
              · exact hv
            · exact hinv q0 hq0 w hw
          · simp only [List.mem_append, List.mem_singleton] at hq'
            rcases hq' with hq' | rfl
            · exact hinv q hq' w hw
            · simp at hw; subst hw; exact hv
    | _ => exact idle (fun _ h => nomatch h) (fun _ h => nomatch h)

/-- **C13, locations.**  Every location of every error a rule reports on a document is the
    position of a node of that document. -/
theorem locations_in_document (s : Schema) (d : Document) (hq : s.queryType.isSome = true) (r : RuleId) :
    ∀ x ∈ errsOf r s d, ∀ p ∈ x.locs, p ∈ docPositions d := by
  unfold errsOf
  cases r
  case loneAnonymousOperation => exact loc_loneAnonymous s d hq
  case overlappingFieldsCanBeMerged => exact loc_merge s d hq
  case noFragmentsCycle => exact loc_noFragmentsCycle s d hq
  case uniqueVariableNames => exact loc_uniqueVariableNames s d hq
  case variablesInAllowedPosition => exact loc_vip s d hq
  case uniqueDirectivesPerLocation => exact loc_uniqueDirectives s d hq
  all_goals exact locs_of_localLoc _ (localLoc_ruleOf _ rfl) s d hq

theorem validate_locations (s : Schema) (d : Document) (hq : s.queryType.isSome = true) (plan : List RuleId) (errs : List Err)
    (h : validate s d plan = some errs) : ∀ x ∈ errs, ∀ p ∈ x.locs, p ∈ docPositions d := by
  rw [C03.no_panic s d hq plan] at h
  cases h
  intro x hx
  obtain ⟨r, _, hr⟩ := List.mem_flatMap.1 hx
  exact locations_in_document s d hq r x hr

/-- not vacuous: `{ zz }` against `type Query { a: Int }` gives an error located at the field,
    and that position is one of the two positions of the document -/
example :
    let s : Schema := [.type (.object 0 [] [⟨100, [], .named 6⟩]), .type (.scalar 6)]
    let d : Document := [.op ⟨.shorthand, ⟨1, 1⟩, none, [], [], [.field ⟨1, 3⟩ none 102 [] [] []]⟩]
    (errsOf .fieldsOnCorrectType s d).map (·.locs) = [[⟨1, 3⟩]] ∧ docPositions d = [⟨1, 1⟩, ⟨1, 3⟩] := by
  decide

end Gql.C13
