/-
  Thm/C05b.lean — PROPERTY C05 on documents without fragment spreads (and with declared
  inline-fragment type conditions): the field-merging rule reports iff the spec's
  FieldsInSetCanMerge fails for some selection set of the document.
-/
import GqlVerif.Lemmas.MergeVisited
import GqlVerif.Thm.C01
namespace Gql.C05
open Gql.Spec

theorem foldl_step_const (r : Rule) (s : Schema) (d : Document) (chk : Ev × Snap → List Err) :
    ∀ (tr : Trace) (errs : List Err), (∀ e ∈ tr, r.on s d r.init e = (r.init, chk e)) →
      tr.foldl (r.step s d) (r.init, errs) = (r.init, errs ++ tr.flatMap chk)
  | [], errs, _ => by simp
  | e :: tr, errs, h => by
      have he : r.step s d (r.init, errs) e = (r.init, errs ++ chk e) := by
        simp [Rule.step, h e (by simp)]
      rw [List.foldl_cons, he, foldl_step_const r s d chk tr _ (fun x hx => h x (by simp [hx]))]
      simp [List.append_assoc]

theorem runOn_const (r : Rule) (s : Schema) (d : Document) (chk : Ev × Snap → List Err) :
    ∀ (tr : Trace), (∀ e ∈ tr, r.on s d r.init e = (r.init, chk e)) →
      r.runOn s d tr = tr.flatMap chk ++ r.finish s d r.init := by
  intro tr h
  simp [Rule.runOn, foldl_step_const r s d chk tr [] h]

/-- what the rule reports at one callback of a spread-free document -/
def mergeChk (s : Schema) (d : Document) (e : Ev × Snap) : List Err :=
  match e.1 with
  | .enter (.selectionSet sel) =>
    (conflictsWithinSelectionSet s d (mergeFuel d) e.2.parent sel {}).1.map fun c =>
      ⟨.overlappingFieldsCanBeMerged, c.pos1 ++ c.pos2, .fieldsConflict c.key c.reason⟩
  | _ => []

theorem goodSel_fields {s : Schema} {D : Nat} {sel : List Selection} (hg : GoodSel s D sel) (parent : Option TypeDef) :
    ∀ a ∈ specFieldsWith s (fun _ => []) parent sel, depOf a ≤ D ∧ ffOf a := fun a ha =>
  let ⟨h1, h2⟩ := (mem_spec_dep s _).2 sel parent a hg.1 ha
  ⟨Nat.le_trans (Nat.le_of_succ_le h1) hg.2.2, h2⟩

theorem selset_step (s : Schema) (d : Document) (sel : List Selection) (parent : Option TypeDef)
    (hg : GoodSel s (docDepth d) sel) :
    ∃ cs, conflictsWithinSelectionSet s d (mergeFuel d) parent sel {} = (cs, {}) ∧
      (cs = [] ↔ ¬ WBad s (specFieldsWith s (fun _ => []) parent sel)) := by
  unfold conflictsWithinSelectionSet
  rw [fieldsAndFragmentNames_ff s (fun _ => []) parent sel hg.1]
  obtain ⟨cs, hcs, hiff⟩ := conflictsWithin_ff s d (docDepth d) (mergeFuel d) _ {} (goodSel_fields hg parent)
    (by unfold mergeFuel; omega) rfl
  refine ⟨cs, ?_, ?_⟩
  · simp only [hcs, conflictsWithinSelectionSet.loop]
  · rw [hiff]; unfold WBad; exact ⟨fun h hn => hn h, fun h => Classical.byContradiction h⟩

theorem merge_on_spreadFree (s : Schema) (d : Document) (hssc : SSC s (docDepth d) (walkOf s d)) :
    ∀ e ∈ walkOf s d,
      overlappingFieldsCanBeMerged.on s d overlappingFieldsCanBeMerged.init e = (overlappingFieldsCanBeMerged.init, mergeChk s d e) := by
  rintro ⟨ev, env⟩ hm
  cases ev with
  | leave n => rfl
  | enter n =>
    cases n with
    | selectionSet sel =>
      obtain ⟨cs, hcs, _⟩ := selset_step s d sel env.parent (hssc sel env hm).2.1
      simp only [overlappingFieldsCanBeMerged, mergeChk]
      simp only [hcs]
      rfl
    | _ => rfl

/-- **C05 on spread-free documents.** -/
theorem merge_iff_spreadFree (s : Schema) (d : Document) (hq : s.queryType.isSome = true)
    (hsf : SpreadFree d) (htc : TcKnown s d) :
    fires .overlappingFieldsCanBeMerged s d ↔ MergeViolated s d := by
  have hssc := ssc_walkOf s d hq hsf htc
  have hstep := merge_on_spreadFree s d hssc
  have hchk : ∀ sel env, (Ev.enter (.selectionSet sel), env) ∈ walkOf s d →
      (mergeChk s d (.enter (.selectionSet sel), env) ≠ [] ↔ WBad s (specFieldsWith s (fun _ => []) env.parent sel)) := by
    intro sel env hm
    obtain ⟨cs, hcs, hiff⟩ := selset_step s d sel env.parent (hssc sel env hm).2.1
    simp only [mergeChk, hcs, ne_eq, List.map_eq_nil_iff, hiff, Classical.not_not]
  have hfires : fires .overlappingFieldsCanBeMerged s d ↔ ∃ F, Vis s d F ∧ WBad s F := by
    unfold fires errsOf
    simp only [ruleOf]
    rw [runOn_const overlappingFieldsCanBeMerged s d (mergeChk s d) _ hstep]
    have hfin : overlappingFieldsCanBeMerged.finish s d overlappingFieldsCanBeMerged.init = [] := rfl
    rw [hfin, List.append_nil, flatMap_ne_nil_iff]
    constructor
    · rintro ⟨⟨ev, env⟩, hm, hne⟩
      cases ev with
      | leave n => exact absurd rfl hne
      | enter n =>
        cases n with
        | selectionSet sel => exact ⟨_, ⟨sel, env, hm, rfl⟩, (hchk sel env hm).1 hne⟩
        | _ => exact absurd rfl hne
    · rintro ⟨F, ⟨sel, env, hm, rfl⟩, hw⟩
      exact ⟨(.enter (.selectionSet sel), env), hm, (hchk sel env hm).2 hw⟩
  rw [hfires]
  -- the spec, on the same visited lists
  have hN : docDepth d + 2 ≤ nestFuelOf d := by
    unfold nestFuelOf
    have : docDepth d + 1 ≤ (docDepth d + 1) * (d.fragments.length + 2) := Nat.le_mul_of_pos_right _ (by omega)
    omega
  have hvisF : ∀ sel env, (Ev.enter (.selectionSet sel), env) ∈ walkOf s d →
      specFields s d (spreadFuelOf d) env.parent sel = specFieldsWith s (fun _ => []) env.parent sel ∧
      ∀ a ∈ specFieldsWith s (fun _ => []) env.parent sel, depOf a ≤ docDepth d ∧ ffOf a := by
    intro sel env hm
    obtain ⟨_, hg, _⟩ := hssc sel env hm
    exact ⟨specFieldsWith_ff s _ _ _ _ hg.1, goodSel_fields hg env.parent⟩
  unfold MergeViolated
  constructor
  · rintro ⟨F, ⟨sel, env, hm, rfl⟩, hw⟩
    obtain ⟨he, hF⟩ := hvisF sel env hm
    exact ⟨sel, env, hm, by rw [he]; exact W_to_cm s d _ _ (docDepth d) _ hF hN hw⟩
  · rintro ⟨sel, env, hm, hcm⟩
    obtain ⟨he, hF⟩ := hvisF sel env hm
    rw [he] at hcm
    obtain ⟨F', hd, hw⟩ := cm_to_W s d _ _ _ (fun a ha => (hF a ha).2) hcm
    have hne : F' ≠ [] := by
      intro h; subst h; exact hw List.Pairwise.nil
    exact ⟨F', vis_desc s d hssc hd ⟨sel, env, hm, rfl⟩ hne, hw⟩

/-- `MergeAgrees` (the hypothesis of C01/C02) holds on spread-free documents -/
theorem mergeAgrees_spreadFree (s : Schema) (d : Document) (hq : s.queryType.isSome = true)
    (hsf : SpreadFree d) (htc : TcKnown s d) : C01.MergeAgrees s d := merge_iff_spreadFree s d hq hsf htc

/-- C01 ∧ C02 without the extra hypothesis, on spread-free documents -/
theorem accepted_iff_valid_spreadFree (s : Schema) (d : Document) (hs : C01.SchemaOk s) (hd : C01.DocOk d)
    (hsf : SpreadFree d) (htc : TcKnown s d) :
    validate s d Gen.defaultPlan = some [] ↔ ∀ r, ¬ C01.Violates r s d :=
  C01.accepted_iff_valid_partial s d hs hd (mergeAgrees_spreadFree s d hs.queryRoot hsf htc)

/-- the rule's recursion ends on spread-free documents: its state is never `stuck` -/
theorem merge_terminates_spreadFree (s : Schema) (d : Document) (hq : s.queryType.isSome = true)
    (hsf : SpreadFree d) (htc : TcKnown s d) : (C03.mergeFinal s d).stuck = false := by
  unfold C03.mergeFinal
  rw [foldl_step_const _ s d (mergeChk s d) _ [] (merge_on_spreadFree s d (ssc_walkOf s d hq hsf htc))]
  rfl

/-- the hypotheses are met by the spread-free example documents of `Thm/C05.lean` -/
example : SpreadFree [q [fld none 20 [fld (some 44) 24 [], fld (some 44) 26 []]]] ∧
    TcKnown exSchema [q [fld none 20 [fld (some 44) 24 [], fld (some 44) 26 []]]] := by
  constructor <;> (intro x hx; simp at hx; subst hx; rfl)

end Gql.C05
