/-
  Thm/C14c.lean — PROPERTY C14, top-level definitions, for all 24 rules and for accept/reject:
  FieldsInSetCanMerge depends on the document only through the set of its definitions (the
  selection sets the walk visits, the fragment a name resolves to, the number of fragments and the
  nesting depth - which bound the fuel), and the merging rule reports iff it fails
  (`merge_iff_acyclic`).  Hence permuting the definitions of a document changes neither which of
  the 24 rules report (`fires_perm_all`, documents without fragment cycles) nor accept/reject under
  the default plan (`accepted_perm`, every document: with a duplicate fragment name or a cycle both
  orders are rejected).
-/
import GqlVerif.Thm.C14
import GqlVerif.Thm.C05c
namespace Gql.C14
open Gql.Spec

section
variable {s : Schema} {d d' : Document}

theorem spreadFields_congr (hfb : d.fragByName = d'.fragByName) : ∀ n : Nat, spreadFields s d n = spreadFields s d' n
  | 0 => rfl
  | n + 1 => by
      funext nm
      simp only [spreadFields, hfb, spreadFields_congr hfb n]

theorem subFields_congr (hfb : d.fragByName = d'.fragByName) (sf : Nat) : subFields s d sf = subFields s d' sf := by
  funext a
  unfold subFields specFields
  rw [spreadFields_congr hfb sf]

theorem srs_congr (hfb : d.fragByName = d'.fragByName) (sf : Nat) : ∀ n : Nat,
    sameResponseShape s d sf n = sameResponseShape s d' sf n
  | 0 => rfl
  | n + 1 => by
      funext a b
      rw [srs_succ, srs_succ, subFields_congr hfb, srs_congr hfb sf n]

theorem cm_congr (hfb : d.fragByName = d'.fragByName) (sf : Nat) : ∀ n : Nat,
    fieldsInSetCanMerge s d sf n = fieldsInSetCanMerge s d' sf n
  | 0 => rfl
  | n + 1 => by
      funext L
      have : pairOk s d sf n = pairOk s d' sf n := by
        funext a b
        unfold pairOk
        rw [srs_congr hfb, subFields_congr hfb, cm_congr hfb sf n]
      rw [cm_succ, cm_succ, this]

theorem DocSimS.mergeViolated (h : DocSimS d d') (hq : s.queryType.isSome = true) (hv : MergeViolated s d) :
    MergeViolated s d' := by
  obtain ⟨sel, env, hm, hf⟩ := hv
  refine ⟨sel, env, h.mem_walk hq rfl hm, ?_⟩
  have hfb := h.fragByName
  have hsf : spreadFuelOf d' = spreadFuelOf d := by unfold spreadFuelOf; rw [h.fragments.length_eq]
  have hnf : nestFuelOf d' = nestFuelOf d := by unfold nestFuelOf; rw [h.fragments.length_eq, h.depth]
  rw [hsf, hnf, ← cm_congr hfb]
  unfold specFields at hf ⊢
  rw [← spreadFields_congr hfb (s := s)]
  exact hf

theorem DocSimS.violates (h : DocSimS d d') (hq : s.queryType.isSome = true)
    (hdup : DuplicateOperationName d ↔ DuplicateOperationName d') (hanon : AnonymousNotAlone d ↔ AnonymousNotAlone d')
    (hpos : BadVariablePosition s d ↔ BadVariablePosition s d') (r : RuleId) : C01.Violates r s d ↔ C01.Violates r s d' := by
  by_cases hr : r = .overlappingFieldsCanBeMerged
  · subst hr; exact ⟨h.mergeViolated hq, h.symm.mergeViolated hq⟩
  · exact ⟨h.violates_mp hq hdup.1 hanon.1 hpos.1 r hr, h.symm.violates_mp hq hdup.2 hanon.2 hpos.2 r hr⟩

/-- Only the two conditions on operation names are assumed: a variable declared twice in one
    operation is rejected on both sides, and without one `DocSim` decides 'variables in allowed
    position' too. -/
theorem DocSimS.accepted (h : DocSimS d d') (hs : C01.SchemaOk s) (hd : C01.DocOk d) (hi : C01.NoIntrospectionConditions s d)
    (hdup : DuplicateOperationName d ↔ DuplicateOperationName d') (hanon : AnonymousNotAlone d ↔ AnonymousNotAlone d') :
    validate s d Gen.defaultPlan = some [] ↔ validate s d' Gen.defaultPlan = some [] :=
  h.docSim.accepted_of_violates hs hd hi .uniqueVariableNames ⟨h.docSim.duplicateVariable, h.docSim.symm.duplicateVariable⟩
    fun hu => h.violates hs.queryRoot hdup hanon (h.docSim.badVariablePosition_iff hu)

theorem DocSimS.fires_merge (h : DocSimS d d') (hq : s.queryType.isSome = true) (ht : TcKnown s d) (hu : ArgsUniq s d)
    (hac : ¬ FragmentCycle d) :
    Gql.fires .overlappingFieldsCanBeMerged s d ↔ Gql.fires .overlappingFieldsCanBeMerged s d' := by
  have ht' : TcKnown s d' := fun y hy => let ⟨x, hx, hs⟩ := h.defs' y hy; hs.selections ▸ ht x hx
  have hu' : ArgsUniq s d' := fun f env hm => hu f env (h.symm.mem_walk hq rfl hm)
  rw [C05.merge_iff_acyclic s d hq ht hu hac, C05.merge_iff_acyclic s d' hq ht' hu' fun hc => hac (h.docSim.symm.fragmentCycle hc)]
  exact ⟨h.mergeViolated hq, h.symm.mergeViolated hq⟩

theorem mergeViolated_perm (h : d.Perm d') (hq : s.queryType.isSome = true) (hn : (d.fragments.map (·.name)).Nodup) :
    MergeViolated s d ↔ MergeViolated s d' :=
  ⟨(docSimS_of_perm h hn).mergeViolated hq, (docSimS_of_perm h hn).symm.mergeViolated hq⟩

/-- **C14, definitions, the field-merging rule.**  On a document without fragment cycles the rule
    reports iff it reports on any permutation of the definitions. -/
theorem fires_perm_merge (h : d.Perm d') (hq : s.queryType.isSome = true) (hn : (d.fragments.map (·.name)).Nodup)
    (ht : TcKnown s d) (hu : ArgsUniq s d) (hac : ¬ FragmentCycle d) :
    fires .overlappingFieldsCanBeMerged s d ↔ fires .overlappingFieldsCanBeMerged s d' :=
  (docSimS_of_perm h hn).fires_merge hq ht hu hac

/-- **C14, definitions, all 24 rules.** -/
theorem fires_perm_all (hs : C01.SchemaOk s) (hd : C01.DocOk d) (h : d.Perm d')
    (hn : (d.fragments.map (·.name)).Nodup) (ht : TcKnown s d) (hu : ArgsUniq s d) (hac : ¬ FragmentCycle d) (r : RuleId) :
    fires r s d ↔ fires r s d' := by
  by_cases hr : r = .overlappingFieldsCanBeMerged
  · subst hr; exact fires_perm_merge h hs.queryRoot hn ht hu hac
  · exact fires_perm hs hd h hn r hr

/-- **C14, definitions, accept/reject** - for every document (cyclic ones, duplicate fragment names,
    undeclared type conditions included: those are rejected in every order). -/
theorem accepted_perm (hs : C01.SchemaOk s) (hd : C01.DocOk d) (hi : C01.NoIntrospectionConditions s d) (h : d.Perm d') :
    validate s d Gen.defaultPlan = some [] ↔ validate s d' Gen.defaultPlan = some [] := by
  have hq := hs.queryRoot
  by_cases hn : (d.fragments.map (·.name)).Nodup
  · have hc := opNames_congr ((perm_operations h).map (·.name))
    exact (docSimS_of_perm h hn).accepted hs hd hi hc.1 hc.2
  · -- a duplicate fragment name: 'unique fragment names' reports in both orders
    have rej : ∀ d : Document, ¬ (d.fragments.map (·.name)).Nodup → ¬ validate s d Gen.defaultPlan = some [] := fun d hn ha =>
      (C01.accepted_iff_none_fires s d hq).1 ha .uniqueFragmentNames ((C06.uniqueFragmentNames_iff s d hq).2 hn)
    have hn' : ¬ (d'.fragments.map (·.name)).Nodup := fun hc => hn (((perm_fragments h).map _).nodup_iff.2 hc)
    exact ⟨fun ha => absurd ha (rej d hn), fun ha => absurd ha (rej d' hn')⟩

end
end Gql.C14
