/-
  Thm/C14f.lean — PROPERTY C14, permuting the variable definitions of operations: which of the 24
  rules report is the same for a document and for the document with the variable definitions of
  any of its operations reordered (`DocRelV`), provided variable names are unique per operation
  (with a duplicate name the first-match lookup of 'variables in allowed position' makes its report
  depend on the order: known finding F18; 'unique variable names' reports in every order).
-/
import GqlVerif.Thm.C14c
import GqlVerif.Thm.C14b
namespace Gql.C14
open Gql.Spec

/-- `d'` is `d` with the variable definitions of some operations reordered -/
inductive DocRelV : Document → Document → Prop
  | refl (d : Document) : DocRelV d d
  | op (o : Operation) {vars' : List VarDef} (l : Document) : o.vars.Perm vars' → DocRelV (.op o :: l) (.op { o with vars := vars' } :: l)
  | cons (x : Definition) {l l' : Document} : DocRelV l l' → DocRelV (x :: l) (x :: l')
  | trans {a b c : Document} : DocRelV a b → DocRelV b c → DocRelV a c

/-- Both operation rewrites at once: `d'` is `d` with some operations renamed and their variable
    definitions reordered. -/
inductive DocRelVN : Document → Document → Prop
  | refl (d : Document) : DocRelVN d d
  | op (o : Operation) (n : Option Name) {vs : List VarDef} (l : Document) : o.vars.Perm vs →
      DocRelVN (.op o :: l) (.op { o with name := n, vars := vs } :: l)
  | cons (x : Definition) {l l' : Document} : DocRelVN l l' → DocRelVN (x :: l) (x :: l')
  | trans {a b c : Document} : DocRelVN a b → DocRelVN b c → DocRelVN a c

theorem DocRelV.toVN {d d' : Document} (h : DocRelV d d') : DocRelVN d d' := by
  induction h with
  | refl d => exact .refl d
  | op o l hp => exact .op o o.name l hp
  | cons x _ ih => exact .cons x ih
  | trans _ _ ih1 ih2 => exact .trans ih1 ih2

/-- the definitions stay where they are, each up to `DefSimS`: so the fragments are the same list -/
theorem DocRelVN.docSimS {d d' : Document} (h : DocRelVN d d') : DocSimS d d' := by
  suffices h : DocSimS d d' ∧ d.fragments = d'.fragments from h.1
  have cons : ∀ {x y : Definition} {l l' : Document}, DefSimS x y → x.selections = y.selections →
      (Document.fragments (x :: l) = Document.fragments (y :: l') ↔ l.fragments = l'.fragments) →
      DocSimS l l' ∧ l.fragments = l'.fragments → DocSimS (x :: l) (y :: l') ∧ Document.fragments (x :: l) = Document.fragments (y :: l') := by
    intro x y l l' hxy hsel hfr ⟨hs, hf⟩
    have hf' := hfr.2 hf
    refine ⟨⟨hs.defs.cons hxy, hs.defs'.cons hxy, ?_, hf' ▸ .refl _, ?_⟩, hf'⟩
    · funext n; unfold Document.fragByName; rw [hf']
    · simp only [docDepth, hsel, hs.depth]
  have refl : ∀ l : Document, DocSimS l l ∧ l.fragments = l.fragments := fun l =>
    ⟨⟨.refl .refl l, .refl (R := flip DefSimS) .refl l, rfl, .refl _, rfl⟩, rfl⟩
  induction h with
  | refl d => exact refl d
  | op o n l hp => exact cons (.op o n hp) rfl Iff.rfl (refl l)
  | cons x _ ih => exact cons (.refl x) rfl (by cases x <;> simp [Document.fragments]) ih
  | trans _ _ ih1 ih2 =>
    exact ⟨⟨ih1.1.defs.trans DefSimS.trans ih2.1.defs, ih2.1.defs'.trans (fun r2 r1 => DefSimS.trans r1 r2) ih1.1.defs',
      ih1.1.fragByName.trans ih2.1.fragByName, ih1.1.fragments.trans ih2.1.fragments, ih1.1.depth.trans ih2.1.depth⟩,
      ih1.2.trans ih2.2⟩

section
variable {s : Schema} {d d' : Document}

theorem opNamesV (h : DocRelV d d') : d.operations.map (·.name) = d'.operations.map (·.name) := by
  induction h with
  | refl d => rfl
  | op o l _ => simp only [Document.operations, List.map_cons]
  | cons x _ ih => cases x <;> simp only [Document.operations, List.map_cons, ih]
  | trans _ _ ih1 ih2 => exact ih1.trans ih2

/-- **C14, variable definitions, accept/reject**: the default plan accepts a document iff it accepts the
    document with the variable definitions of its operations reordered (every document: a duplicate
    variable name is rejected in every order). -/
theorem accepted_varperm (hs : C01.SchemaOk s) (hd : C01.DocOk d) (hi : C01.NoIntrospectionConditions s d) (h : DocRelV d d') :
    validate s d Gen.defaultPlan = some [] ↔ validate s d' Gen.defaultPlan = some [] :=
  have hc := opNames_congr (.of_eq (opNamesV h))
  h.toVN.docSimS.accepted hs hd hi hc.1 hc.2

/-- **C14, variable definitions, which rules report**: with unique variable names, each of the 23 rules
    other than the field-merging one reports for the one document iff it reports for the other. -/
theorem fires_varperm (hs : C01.SchemaOk s) (hd : C01.DocOk d) (h : DocRelV d d')
    (hn : (d.fragments.map (·.name)).Nodup) (hu : ¬ DuplicateVariable d) (r : RuleId) (h1 : r ≠ .overlappingFieldsCanBeMerged) :
    fires r s d ↔ fires r s d' := by
  have hsim := h.toVN.docSimS
  have hc := opNames_congr (.of_eq (opNamesV h))
  exact hsim.docSim.fires hs hn r h1 (hsim.violates hs.queryRoot hc.1 hc.2 (hsim.docSim.badVariablePosition_iff hu) r)

/-- the field-merging rule does not look at variable definitions at all -/
theorem fires_varperm_merge (hq : s.queryType.isSome = true) (h : DocRelV d d') (ht : TcKnown s d) (hau : ArgsUniq s d)
    (hac : ¬ FragmentCycle d) : fires .overlappingFieldsCanBeMerged s d ↔ fires .overlappingFieldsCanBeMerged s d' :=
  h.toVN.docSimS.fires_merge hq ht hau hac

end
end Gql.C14
