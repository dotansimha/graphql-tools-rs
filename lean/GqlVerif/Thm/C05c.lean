/-
  Thm/C05c.lean — PROPERTY C05 (and through it C02, C01) at full strength on documents without
  fragment cycles — the class the property quantifies over: run alone, the 'overlapping fields can
  be merged' rule reports iff FieldsInSetCanMerge (Spec/Merge.lean, from the specification text)
  fails for some selection set of the document — for every schema, every nesting of fields, inline
  fragments and named fragment spreads (shared sub-fragments, diamonds, several spread paths).

  Soundness is `merge_sound` (Lemmas/MergeSound ... MergeFinal); completeness is `merge_complete`
  (Lemmas/MergeRank, MergeCanon, MergeDecomp, MergeComplete, MergeCompleteStep, MergeCompleteTop,
  MergeCompleteFinal): the memo table `compared_fragments` (entries made before the comparison is
  done, flags only lowered), the `visited_fragments` lists and the early exits never skip a
  comparison whose outcome has not been established already.  Since the verdict of the rule is a
  function of FieldsInSetCanMerge, it does not depend on the order of selections, spreads or
  definitions (`MergeViolated` quantifies over selection sets and unordered pairs).

  C02: a document that violates any of the 24 conditions is rejected by the default plan
  (`invalid_rejected_plain`), C01 ∧ C02: `accepted_iff_valid_plain` — no hypothesis on any rule.
-/
import GqlVerif.Lemmas.MergeCompleteFinal
import GqlVerif.Thm.C01b
namespace Gql.C05
open Gql.Spec

/-- **C05, completeness.**  Without a fragment cycle, the rule reports whenever FieldsInSetCanMerge fails. -/
theorem merge_complete_acyclic (s : Schema) (d : Document) (hq : s.queryType.isSome = true) (htc : TcKnown s d)
    (hu : ArgsUniq s d) (hac : ¬ FragmentCycle d) (h : MergeViolated s d) : fires .overlappingFieldsCanBeMerged s d :=
  Gql.merge_complete s d hq htc hu hac h

/-- **C05.**  Without a fragment cycle, the rule reports iff FieldsInSetCanMerge fails for some selection set. -/
theorem merge_iff_acyclic (s : Schema) (d : Document) (hq : s.queryType.isSome = true) (htc : TcKnown s d)
    (hu : ArgsUniq s d) (hac : ¬ FragmentCycle d) :
    fires .overlappingFieldsCanBeMerged s d ↔ MergeViolated s d :=
  ⟨fun h => (violatedEx_iff_of_acyclic s d hq hac).1 (merge_sound s d hq htc hu h), merge_complete_acyclic s d hq htc hu hac⟩

/-- the hypothesis `MergeAgrees` of the partial theorems of C01/C02 holds on every such document -/
theorem mergeAgrees_acyclic (s : Schema) (d : Document) (hq : s.queryType.isSome = true) (htc : TcKnown s d)
    (hu : ArgsUniq s d) (hac : ¬ FragmentCycle d) : C01.MergeAgrees s d :=
  merge_iff_acyclic s d hq htc hu hac

/-! ### the hypotheses are satisfiable by a document with nested spreads on which the rule reports:
    the F15 regression document (two spread paths into a chain of fragments) -/

theorem argsUniq_of_all (s : Schema) (d : Document)
    (h : (walkOf s d).all (fun e => match e.1 with
      | .enter (.field f) => decide ((f.args.map (·.1)).Nodup)
      | _ => true) = true) : ArgsUniq s d := by
  intro f env hm
  have := List.all_eq_true.1 h _ hm
  simpa using this

theorem f15_tcKnown : TcKnown exSchema f15Doc := by
  unfold TcKnown
  decide
theorem f15_argsUniq : ArgsUniq exSchema f15Doc := argsUniq_of_all _ _ (by decide +kernel)

theorem acyclic_of_rank (d : Document) (rk : Name → Nat) (h : ∀ a b, b ∈ spreadsOf d a → rk b < rk a) : ¬ FragmentCycle d := by
  rintro ⟨a, b, hb, hr⟩
  have key : ∀ {x y : Name}, Reachable (spreadsOf d) x y → rk y ≤ rk x := by
    intro x y hxy
    induction hxy with
    | refl => exact Nat.le_refl _
    | step hm _ ih => have := h _ _ hm; omega
  have := h a b hb
  have := key hr
  omega

theorem f15_acyclic : ¬ FragmentCycle f15Doc := by
  apply acyclic_of_rank f15Doc (fun n => if n = 50 then 1 else 0)
  intro a b hb
  simp only [spreadsOf, f15Doc, q, frag, fld, spr, Document.fragments, List.filter_cons, List.filter_nil] at hb
  split at hb
  · rename_i h1
    split at hb
    · rename_i h2
      have e1 : (50 : Name) = a := by simpa using h1
      have e2 : (52 : Name) = a := by simpa using h2
      exact absurd (e1.trans e2.symm) (by decide)
    · simp_all [recursiveSpreads, recursiveSpreadsSel]
  · split at hb <;> simp_all [recursiveSpreads, recursiveSpreadsSel]

/-- all hypotheses of `merge_iff_acyclic` hold of the F15 document, on which both sides are true -/
example : fires .overlappingFieldsCanBeMerged exSchema f15Doc ↔ MergeViolated exSchema f15Doc :=
  merge_iff_acyclic _ _ (by decide) f15_tcKnown f15_argsUniq f15_acyclic

end Gql.C05

namespace Gql.C01
open Gql.Spec

/-- **C02.**  On a well-formed schema, a document that violates at least one of the 24 conditions
    gets at least one error from the default plan — whichever condition it is, the field-merging
    one included, with or without fragment cycles. -/
theorem invalid_rejected_plain (s : Schema) (d : Document) (hs : SchemaOk s) (hd : DocOk d) (hi : NoIntrospectionConditions s d)
    (r : RuleId) (hv : Violates r s d) : ∃ errs, validate s d Gen.defaultPlan = some errs ∧ errs ≠ [] := by
  by_cases h1 : r = .overlappingFieldsCanBeMerged
  · subst h1
    by_cases hac : FragmentCycle d
    · exact invalid_rejected s d hs hd .noFragmentsCycle (by decide) hac
    by_cases hk : UnknownTypeReferenced s d
    · exact invalid_rejected s d hs hd .knownTypeNames (by decide) hk
    by_cases hda : DuplicateArgument s d
    · exact invalid_rejected s d hs hd .uniqueArgumentNames (by decide) hda
    have hf := C05.merge_complete_acyclic s d hs.queryRoot (tcKnown_of_valid s d hs.queryRoot hk hi) (argsUniq_of_valid s d hda) hac hv
    refine ⟨_, C03.no_panic s d hs.queryRoot _, fun he => ?_⟩
    have := (accepted_iff_none_fires s d hs.queryRoot).1 (by rw [C03.no_panic s d hs.queryRoot, he])
    exact this _ hf
  · exact invalid_rejected s d hs hd r h1 hv

/-- **C01 ∧ C02.**  The default plan returns the empty list iff none of the 24 conditions is violated. -/
theorem accepted_iff_valid_plain (s : Schema) (d : Document) (hs : SchemaOk s) (hd : DocOk d) (hi : NoIntrospectionConditions s d) :
    validate s d Gen.defaultPlan = some [] ↔ ∀ r, ¬ Violates r s d := by
  constructor
  · intro h r hv
    obtain ⟨errs, he, hne⟩ := invalid_rejected_plain s d hs hd hi r hv
    rw [h] at he
    cases he
    exact hne rfl
  · exact valid_accepted_plain s d hs hd hi

end Gql.C01
