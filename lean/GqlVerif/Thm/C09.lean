/-
  Thm/C09.lean — PROPERTY C09: the argument rules fire exactly when the spec condition is
  violated, and an error always names the field or directive the argument is attached to.
-/
import GqlVerif.Spec.Rules
import GqlVerif.Lemmas.KnownArguments
import GqlVerif.Lemmas.Schema
import GqlVerif.Thm.C13
namespace Gql.C09
open Gql.Spec

theorem mem_kaArgCheck (p : ArgParent) (defs : List InputValueDef) (a : Arg) (e : Err) :
    e ∈ kaArgCheck (some (p, defs)) a ↔
      (∀ x ∈ defs, x.name ≠ a.1) ∧ e = ⟨.knownArgumentNames, [], unknownArgMsg p a.1⟩ := by
  have hany : defs.any (fun d => d.name == a.1) = false ↔ ∀ x ∈ defs, x.name ≠ a.1 := by
    simp only [List.any_eq_false, beq_iff_eq, ne_eq]
  rw [← hany]
  unfold kaArgCheck
  simp only
  cases defs.any (fun d => d.name == a.1) with
  | false => exact ⟨fun h => ⟨rfl, List.mem_singleton.1 h⟩, fun h => List.mem_singleton.2 h.2⟩
  | true => exact ⟨fun h => absurd h List.not_mem_nil, fun h => Bool.noConfusion h.1⟩

/-- **Every error names the owner the argument is actually attached to**: each reported error is
    "unknown argument `a`" on a field `P.f` where `a` is an argument of an occurrence of `f` under
    parent type `P` (declared there), or on a directive `@n` where `a` is an argument of an
    occurrence of the declared directive `@n`. -/
theorem knownArgumentNames_owner (s : Schema) (d : Document) :
    ∀ e ∈ errsOf .knownArgumentNames s d,
      (∃ f env P fd a, FieldAt s d f env ∧ env.parent = some P ∧ P.fieldByName f.name = some fd ∧
          a ∈ f.args ∧ (∀ x ∈ fd.args, x.name ≠ a.1) ∧ e.msg = .unknownArgOnField a.1 P.name fd.name)
      ∨ (∃ dir dd a, DirectiveAt s d dir ∧ s.directiveByName dir.name = some dd ∧
          a ∈ dir.args ∧ (∀ x ∈ dd.args, x.name ≠ a.1) ∧ e.msg = .unknownArgOnDirective a.1 dd.name) := by
  intro e he
  unfold errsOf at he
  rw [ka_document] at he
  obtain ⟨⟨ev, env⟩, hmem, he⟩ := List.mem_flatMap.1 he
  unfold kaOwnerCheck at he
  split at he
  · next f heq =>
    cases (show ev = _ from heq)
    obtain ⟨a, ha, he⟩ := List.mem_flatMap.1 he
    cases hp : env.parent with
    | none => simp only [fieldSlot, hp] at he; exact absurd he List.not_mem_nil
    | some P =>
      cases hfd : P.fieldByName f.name with
      | none => simp only [fieldSlot, hp, hfd] at he; exact absurd he List.not_mem_nil
      | some fd =>
        simp only [fieldSlot, hp, hfd] at he
        obtain ⟨hall, rfl⟩ := (mem_kaArgCheck _ _ a e).1 he
        exact Or.inl ⟨f, env, P, fd, a, hmem, hp, hfd, ha, hall, rfl⟩
  · next dir heq =>
    cases (show ev = _ from heq)
    obtain ⟨a, ha, he⟩ := List.mem_flatMap.1 he
    cases hdd : s.directiveByName dir.name with
    | none => simp only [dirSlot, hdd] at he; exact absurd he List.not_mem_nil
    | some dd =>
      simp only [dirSlot, hdd] at he
      obtain ⟨hall, rfl⟩ := (mem_kaArgCheck _ _ a e).1 he
      exact Or.inr ⟨dir, dd, a, ⟨env, hmem⟩, hdd, ha, hall, rfl⟩
  · exact absurd he List.not_mem_nil

/-- 'known argument names' reports iff an argument is not declared by the known field or
    directive it is attached to (arguments of unknown fields/directives are left to other rules). -/
theorem knownArgumentNames_iff (s : Schema) (d : Document) :
    fires .knownArgumentNames s d ↔ UnknownArgumentUsed s d := by
  constructor
  · intro h
    unfold fires at h
    obtain ⟨e, he⟩ := List.exists_mem_of_ne_nil _ h
    rcases knownArgumentNames_owner s d e he with ⟨f, env, P, fd, a, h1, h2, h3, h4, h5, _⟩ | ⟨dir, dd, a, h1, h2, h3, h4, _⟩
    · exact Or.inl ⟨f, env, P, fd, a, h1, h2, h3, h4, h5⟩
    · exact Or.inr ⟨dir, dd, a, h1, h2, h3, h4⟩
  · intro h
    unfold fires errsOf
    rw [ka_document, flatMap_ne_nil_iff]
    rcases h with ⟨f, env, P, fd, a, h1, h2, h3, h4, h5⟩ | ⟨dir, dd, a, ⟨env, h1⟩, h2, h3, h4⟩
    · refine ⟨(.enter (.field f), env), h1, ?_⟩
      simp only [kaOwnerCheck, kaArgErrs, fieldSlot, h2, h3]
      rw [flatMap_ne_nil_iff]
      exact ⟨a, h4, List.ne_nil_of_mem ((mem_kaArgCheck _ _ a _).2 ⟨h5, rfl⟩)⟩
    · refine ⟨(.enter (.directive dir), env), h1, ?_⟩
      simp only [kaOwnerCheck, kaArgErrs, dirSlot, h2]
      rw [flatMap_ne_nil_iff]
      exact ⟨a, h3, List.ne_nil_of_mem ((mem_kaArgCheck _ _ a _).2 ⟨h4, rfl⟩)⟩

/-! ### unique argument names -/

theorem eraseDups_eq_nil (l : List Name) : l.eraseDups = [] ↔ l = [] := by
  cases l with
  | nil => simp
  | cons x xs => simp [List.eraseDups_cons]

theorem dupNames_ne_nil (l : List Name) : dupNames l ≠ [] ↔ ¬ l.Nodup := by
  unfold dupNames
  rw [ne_eq, eraseDups_eq_nil, ← ne_eq, filter_ne_nil_iff, List.nodup_iff_count, Classical.not_forall]
  constructor
  · rintro ⟨a, _, h⟩
    exact ⟨a, Nat.not_le.2 (of_decide_eq_true h)⟩
  · rintro ⟨a, h⟩
    have h := Nat.not_le.1 h
    exact ⟨a, List.count_pos_iff.1 (Nat.lt_trans Nat.zero_lt_one h), decide_eq_true h⟩

theorem duplicateArgErrors_ne_nil (p : Pos) (args : List Arg) :
    duplicateArgErrors p args ≠ [] ↔ ¬ (args.map (·.1)).Nodup := by
  unfold duplicateArgErrors
  simp only [ne_eq, List.map_eq_nil_iff]
  exact dupNames_ne_nil _

/-- 'unique argument names' reports iff two arguments of one field or directive share a name -/
theorem uniqueArgumentNames_iff (s : Schema) (d : Document) :
    fires .uniqueArgumentNames s d ↔ DuplicateArgument s d := by
  refine (stateless_fires_iff _ s d _).trans ⟨?_, ?_⟩
  · rintro ⟨⟨ev, env⟩, hmem, hne⟩
    split at hne
    · next f he => cases (show ev = _ from he); exact Or.inl ⟨f, env, hmem, (duplicateArgErrors_ne_nil _ _).1 hne⟩
    · next dir he => cases (show ev = _ from he); exact Or.inr ⟨dir, ⟨env, hmem⟩, (duplicateArgErrors_ne_nil _ _).1 hne⟩
    · exact absurd rfl hne
  · rintro (⟨f, env, hmem, h⟩ | ⟨dir, ⟨env, hmem⟩, h⟩)
    · exact ⟨(.enter (.field f), env), hmem, (duplicateArgErrors_ne_nil _ _).2 h⟩
    · exact ⟨(.enter (.directive dir), env), hmem, (duplicateArgErrors_ne_nil _ _).2 h⟩

/-! ### provided required arguments -/

theorem missingRequired_ne_nil (used : List Arg) (defs : List InputValueDef) :
    missingRequired used defs ≠ [] ↔ ∃ ad ∈ defs, ad.isRequired = true ∧ ∀ a ∈ used, a.1 ≠ ad.name := by
  refine (filter_ne_nil_iff _ _).trans ?_
  simp only [Bool.and_eq_true, Bool.not_eq_eq_eq_not, Bool.not_true, List.any_eq_false, beq_iff_eq]

/-- 'provided required arguments' reports iff a declared argument of non-null type without
    default is not supplied (on a known field / declared directive) -/
theorem providedRequiredArguments_iff (s : Schema) (d : Document)
    (hn : (s.directives.map (·.name)).Nodup) :
    fires .providedRequiredArguments s d ↔ RequiredArgumentMissing s d := by
  refine (stateless_fires_iff _ s d _).trans ⟨?_, ?_⟩
  · rintro ⟨⟨ev, env⟩, hmem, hne⟩
    split at hne
    · next f he =>
      cases (show ev = _ from he)
      cases hp : env.parent with
      | none => exact absurd (by simp only [hp]) hne
      | some P =>
        cases hfd : P.fieldByName f.name with
        | none => exact absurd (by simp only [hp, hfd]) hne
        | some fd =>
          simp only [hp, hfd, ne_eq, List.map_eq_nil_iff] at hne
          obtain ⟨ad, h1, h2, h3⟩ := (missingRequired_ne_nil _ _).1 hne
          exact Or.inl ⟨f, env, P, fd, ad, hmem, hp, hfd, h1, h2, h3⟩
    · next dir he =>
      cases (show ev = _ from he)
      cases hdd : s.directiveByName dir.name with
      | none => exact absurd (by simp only [directiveMapGet_eq_directiveByName s hn, hdd]) hne
      | some dd =>
        simp only [directiveMapGet_eq_directiveByName s hn, hdd, ne_eq, List.map_eq_nil_iff] at hne
        obtain ⟨ad, h1, h2, h3⟩ := (missingRequired_ne_nil _ _).1 hne
        exact Or.inr ⟨dir, dd, ad, ⟨env, hmem⟩, hdd, h1, h2, h3⟩
    · exact absurd rfl hne
  · rintro (⟨f, env, P, fd, ad, hmem, hp, hfd, h1, h2, h3⟩ | ⟨dir, dd, ad, ⟨env, hmem⟩, hdd, h1, h2, h3⟩)
    · refine ⟨(.enter (.field f), env), hmem, ?_⟩
      simp only [hp, hfd, ne_eq, List.map_eq_nil_iff]
      exact (missingRequired_ne_nil _ _).2 ⟨ad, h1, h2, h3⟩
    · refine ⟨(.enter (.directive dir), env), hmem, ?_⟩
      simp only [directiveMapGet_eq_directiveByName s hn, hdd, ne_eq, List.map_eq_nil_iff]
      exact (missingRequired_ne_nil _ _).2 ⟨ad, h1, h2, h3⟩

theorem codes_C09 (s : Schema) (d : Document) :
    (∀ e ∈ errsOf .knownArgumentNames s d, e.code = .knownArgumentNames) ∧
    (∀ e ∈ errsOf .uniqueArgumentNames s d, e.code = .uniqueArgumentNames) ∧
    (∀ e ∈ errsOf .providedRequiredArguments s d, e.code = .providedRequiredArguments) :=
  ⟨C13.codes s d _ _, C13.codes s d _ _, C13.codes s d _ _⟩

/-! Non-vacuity (regression witnesses of the repaired F8 among them).
    `type Query { f(i: Int, r: Int!): Int  t: T }  type T { a: Int }  directive @dir(x: Int) on FIELD`
    ids: Query=0 Int=6 f=20 i=22 r=24 t=26 T=28 a=30 dir=32 x=34 z=36 nope=38 -/
def exSchema : Schema :=
  [ .type (.object 0 [] [⟨20, [⟨22, .named 6, none⟩, ⟨24, .nonNull (.named 6), none⟩], .named 6⟩, ⟨26, [], .named 28⟩]),
    .type (.object 28 [] [⟨30, [], .named 6⟩]), .type (.scalar 6), .directive ⟨32, false, [.field], [⟨34, .named 6, none⟩]⟩ ]
def q (sel : List Selection) : Document := [.op ⟨.shorthand, ⟨0, 0⟩, none, [], [], sel⟩]
def fld (n : Name) (args : List Arg) (dirs : List Directive) (sel : List Selection) : Selection :=
  .field ⟨1, 1⟩ none n args dirs sel

example : ¬ fires .knownArgumentNames exSchema (q [fld 20 [(22, .int 1), (24, .int 1)] [⟨⟨1, 2⟩, 32, [(34, .int 1)]⟩] []]) := by decide
example : fires .knownArgumentNames exSchema (q [fld 20 [(36, .int 1)] [] []]) := by decide
-- { f(i: 1) @nope(z: 1) }: the argument of the unknown directive is not charged to `Query.f`
example : ¬ fires .knownArgumentNames exSchema (q [fld 20 [(22, .int 1)] [⟨⟨1, 2⟩, 38, [(36, .int 1)]⟩] []]) := by decide
-- { t { nope(z: 1) } }: the argument of the unknown nested field is not charged to `Query.t`
example : ¬ fires .knownArgumentNames exSchema (q [fld 26 [] [] [fld 38 [(36, .int 1)] [] []]]) := by decide
example : fires .uniqueArgumentNames exSchema (q [fld 20 [(22, .int 1), (22, .int 2)] [] []]) := by decide
example : fires .providedRequiredArguments exSchema (q [fld 20 [(22, .int 1)] [] []]) := by decide
example : ¬ fires .providedRequiredArguments exSchema (q [fld 20 [(24, .int 1)] [] []]) := by decide

end Gql.C09
