/-
  Thm/C16.lean — PROPERTY C16: the visitor context reports, at every callback, the type
  environment the schema prescribes for that syntactic position (`walkDocument`, Spec/Walk.lean:
  top-down, lexically scoped, no stacks), and after the walk the context is what it was before.
-/
import GqlVerif.Lemmas.Visit
namespace Gql.C16

/-- Main refinement: run from *any* context `st`, the stack machine makes exactly the callbacks,
    with exactly the context answers (and stack depths), of the environment-passing walk started
    from the answers at entry — and hands back the very stacks it was given. -/
theorem snapshots_eq_walk (s : Schema) (d : Document) (v : V) (h : visitDocument s d = some v)
    (st : Stacks) : ∃ t, walkDocument s st.snap d = some t ∧ v st = (st, t) := by
  have hl := visitDocument_lexical s d
  rw [h] at hl
  exact hl st

/-- The visitor returns normally exactly when the spec walk is defined. -/
theorem walk_none_iff (s : Schema) (d : Document) :
    visitDocument s d = none ↔ ∀ e, walkDocument s e d = none := by
  have hl := visitDocument_lexical s d
  cases hv : visitDocument s d with
  | none =>
    rw [hv] at hl
    exact ⟨fun _ => hl, fun _ => rfl⟩
  | some v =>
    rw [hv] at hl
    obtain ⟨t, ht, _⟩ := hl Stacks.empty
    exact ⟨nofun, fun hall => nomatch ht.symm.trans (hall _)⟩

/-- After the walk the context is back in the state it started from (so: empty if it was empty)
    and can be reused by the next rule. -/
theorem stacks_balanced (s : Schema) (d : Document) (v : V) (h : visitDocument s d = some v)
    (st : Stacks) : (v st).1 = st := by
  obtain ⟨t, _, hv⟩ := snapshots_eq_walk s d v h st
  rw [hv]

/-- From the initial empty context: the answers are those of the walk in the empty environment. -/
theorem snapshots_from_empty (s : Schema) (d : Document) (v : V) (h : visitDocument s d = some v) :
    walkDocument s Snap.empty d = some (v Stacks.empty).2 := by
  obtain ⟨t, ht, hv⟩ := snapshots_eq_walk s d v h Stacks.empty
  rw [hv]; exact ht

/-- name of the type if it is an object type -/
def objName? : Option TypeDef → Option Name
  | some (.object n _ _) => some n
  | _ => none

/-- What the schema prescribes as root type (DESIGN A.1): the entry of the schema definition
    (explicit, or the default names when there is none) if it names an object type; for
    mutation/subscription otherwise the object type carrying the default name, if any.
    Outer `none`: no query root object type (the crate panics; excluded by schema well-formedness). -/
def specRoot (s : Schema) (k : OpKind) : Option (Option Name) :=
  let sd := s.explicitSchemaDef.getD defaultSchemaDef
  match k with
  | .query | .shorthand => (objName? (s.typeByName (sd.query.getD nQuery))).map some
  | .mutation =>
      some ((objName? (sd.mutation.bind s.typeByName)).orElse fun _ => objName? (s.typeByName nMutation))
  | .subscription =>
      some ((objName? (sd.subscription.bind s.typeByName)).orElse fun _ => objName? (s.typeByName nSubscription))

theorem objectTypeByName_name (s : Schema) (n : Name) :
    (s.objectTypeByName n).map (·.name) = objName? (s.typeByName n) := by
  unfold Schema.objectTypeByName
  cases s.typeByName n with
  | none => rfl
  | some t => cases t <;> rfl

theorem bind_objectTypeByName_name (s : Schema) (m : Option Name) :
    (m.bind s.objectTypeByName).map (·.name) = objName? (m.bind s.typeByName) := by
  cases m with
  | none => rfl
  | some n => exact objectTypeByName_name s n

theorem rootTypeName_eq_specRoot (s : Schema) (k : OpKind) : rootTypeName s k = specRoot s k := by
  -- the visitor asks for the object type and takes its name, the specification takes the name of
  -- the type if it is an object type
  have query : s.queryType.map (fun t => some t.name)
      = (objName? (s.typeByName (s.schemaDefinition.query.getD nQuery))).map some := by
    rw [← objectTypeByName_name, Option.map_map]
    rfl
  have other (m : Option Name) (dflt : Name) :
      (match m.bind s.objectTypeByName with
        | some t => some t.name
        | none => objName? (s.typeByName dflt))
        = (objName? (m.bind s.typeByName)).orElse fun _ => objName? (s.typeByName dflt) := by
    rw [← bind_objectTypeByName_name]
    cases m.bind s.objectTypeByName <;> rfl
  cases k
  · exact query
  · exact congrArg some (other _ nMutation)
  · exact congrArg some (other _ nSubscription)
  · exact query

/-! ### Non-vacuity and a reading aid: a concrete schema and document, evaluated by the kernel. -/

/-- `type Query { t: T  f(l: [Int]!): Int }  type T { a: Int }  scalar Int` with ids
    Query=0 Int=6 T=20 t=22 f=24 l=26 a=28 -/
def exSchema : Schema :=
  [ .type (.object 0 [] [⟨22, [], .named 20⟩, ⟨24, [⟨26, .nonNull (.list (.named 6)), none⟩], .named 6⟩]),
    .type (.object 20 [] [⟨28, [], .named 6⟩]), .type (.scalar 6) ]

/-- `{ t { a } f(l: [1]) }` -/
def exDoc : Document :=
  [ .op ⟨.shorthand, ⟨0, 0⟩, none, [], [],
      [ .field ⟨1, 3⟩ none 22 [] [] [.field ⟨1, 7⟩ none 28 [] [] []],
        .field ⟨1, 13⟩ none 24 [(26, .list [.int 1])] [] [] ]⟩ ]

example : (visitDocument exSchema exDoc).isSome = true := by decide

/-- Inside the list literal at the `[Int]!` position the expected input type is `Int`
    (regression witness for the repaired F9). -/
example :
    ((walkDocument exSchema Snap.empty exDoc).getD []).any
      (fun e => match e with
        | (.enter (.scalar _), sn) => decide (sn.inpLit = some (.named 6)) && decide (sn.dInpLit = 2)
        | _ => false) = true := by decide

end Gql.C16
