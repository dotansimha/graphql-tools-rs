/-
  Thm/C11.lean — PROPERTY C11: the operation-level rules fire exactly when the spec condition
  is violated.
-/
import GqlVerif.Spec.Rules
import GqlVerif.Spec.Subscription
import GqlVerif.Lemmas.TraverseMem
import GqlVerif.Lemmas.RuleFold
import GqlVerif.Thm.C09
import GqlVerif.Thm.C19
import GqlVerif.Thm.C18
namespace Gql.C11
open Gql.Spec

/-! ### unique operation names -/

def uonOn (seen : List Name) (o : Operation) : List Name × List Err :=
  (match o.name with | some n => seen ++ [n] | none => seen, [])

/-- 'unique operation names' reports iff two operations share a name -/
theorem uniqueOperationNames_iff (s : Schema) (d : Document) (hq : s.queryType.isSome = true) :
    fires .uniqueOperationNames s d ↔ DuplicateOperationName d := by
  show uniqueOperationNames.runOn s d (walkOf s d) ≠ [] ↔ _
  rw [Rule.runOn_proj uniqueOperationNames s d enterOp? uonOn, walkOf_events s d hq, filterMap_enterOp_document]
  · have hseen : ∀ (l : List Operation) (seen : List Name),
        l.foldl (fun seen o => (uonOn seen o).1) seen = seen ++ l.filterMap (·.name) := by
      intro l
      induction l with
      | nil => intro seen; exact (List.append_nil seen).symm
      | cons o l ih =>
        intro seen
        rw [List.foldl_cons, ih, List.filterMap_cons, uonOn]
        cases o.name with
        | none => rfl
        | some n => exact List.append_assoc seen [n] _
    show (d.operations.foldl (stepOf uonOn) ([], [])).2 ++
      (dupNames (d.operations.foldl (stepOf uonOn) ([], [])).1).map _ ≠ [] ↔ _
    rw [foldl_stepOf_quiet uonOn _ _ (fun _ _ _ => rfl), hseen, List.nil_append, List.nil_append, ne_eq,
      List.map_eq_nil_iff]
    exact C09.dupNames_ne_nil _
  · rintro seen ⟨ev, sn⟩
    cases ev with
    | enter n => cases n <;> exact rfl
    | leave n => exact rfl

/-! ### lone anonymous operation -/

theorem filterMap_ite_ne_nil {α β : Type} (l : List α) (c : α → Bool) (f : α → β) :
    (l.filterMap fun a => if c a then some (f a) else none) ≠ [] ↔ ∃ a ∈ l, c a = true := by
  constructor
  · intro h
    obtain ⟨b, hb⟩ := List.exists_mem_of_ne_nil _ h
    obtain ⟨a, ha, hs⟩ := List.mem_filterMap.1 hb
    by_cases hc : c a = true
    · exact ⟨a, ha, hc⟩
    · rw [if_neg hc] at hs; cases hs
  · rintro ⟨a, ha, hc⟩
    exact List.ne_nil_of_mem (List.mem_filterMap.2 ⟨a, ha, if_pos hc⟩)

theorem loneAnonymous_iff (s : Schema) (d : Document) (hq : s.queryType.isSome = true) :
    fires .loneAnonymousOperation s d ↔ AnonymousNotAlone d := by
  unfold AnonymousNotAlone
  have key : (∃ o ∈ d.operations, (o.name.isNone && decide (d.operations.length > 1)) = true) ↔
      ((∃ o ∈ d.operations, o.name = none) ∧ d.operations.length > 1) := by
    simp only [Bool.and_eq_true, Option.isNone_iff_eq_none, decide_eq_true_eq]
    constructor
    · rintro ⟨o, ho, hn, hl⟩
      exact ⟨⟨o, ho, hn⟩, hl⟩
    · rintro ⟨⟨o, ho, hn⟩, hl⟩
      exact ⟨o, ho, hn, hl⟩
  refine (stateless_fires_iff _ s d _).trans ⟨?_, ?_⟩
  · rintro ⟨⟨ev, env⟩, hmem, hne⟩
    split at hne
    · next d' he =>
      cases (show ev = _ from he)
      cases (enter_document_in_walk s d hq d').1 ⟨env, hmem⟩
      exact key.1 ((filterMap_ite_ne_nil _ _ _).1 hne)
    · exact absurd rfl hne
  · intro h
    obtain ⟨env, hmem⟩ := (enter_document_in_walk s d hq d).2 rfl
    exact ⟨(.enter (.document d), env), hmem, (filterMap_ite_ne_nil _ _ _).2 (key.2 h)⟩

/-! ### single field subscriptions -/

theorem groups_length_gt_one (fs : List FieldNode) :
    (groupFields fs).length > 1 ↔ ∃ f ∈ fs, ∃ g ∈ fs, f.responseKey ≠ g.responseKey := by
  have hkeys : ∀ k, k ∈ alKeys (groupFields fs) ↔ ∃ f ∈ fs, f.responseKey = k := fun k =>
    (mem_alKeys_alGroup FieldNode.responseKey k fs []).trans (or_iff_right List.not_mem_nil)
  have hlen : (groupFields fs).length = (alKeys (groupFields fs)).length := (List.length_map _).symm
  have hnd : (alKeys (groupFields fs)).Nodup := nodup_alKeys_alGroup FieldNode.responseKey fs (m := []) List.nodup_nil
  rw [hlen, gt_iff_lt, nodup_length_gt_one _ hnd]
  constructor
  · rintro ⟨a, ha, b, hb, hab⟩
    obtain ⟨f, hf, rfl⟩ := (hkeys a).1 ha
    obtain ⟨g, hg, rfl⟩ := (hkeys b).1 hb
    exact ⟨f, hf, g, hg, hab⟩
  · rintro ⟨f, hf, g, hg, hab⟩
    exact ⟨_, (hkeys _).2 ⟨f, hf, rfl⟩, _, (hkeys _).2 ⟨g, hg, rfl⟩, hab⟩

theorem groups_dunder (fs : List FieldNode) :
    ((groupFields fs).filter fun g => g.2.any fun f => f.name.dunder) ≠ [] ↔ ∃ f ∈ fs, f.name.dunder = true := by
  rw [filter_ne_nil_iff]
  constructor
  · rintro ⟨⟨k, l⟩, hgm, hany⟩
    obtain ⟨f, hf, hd⟩ := List.any_eq_true.1 hany
    rw [((mem_alGroup_nil FieldNode.responseKey).1 hgm).2] at hf
    exact ⟨f, (List.mem_filter.1 hf).1, hd⟩
  · rintro ⟨f, hf, hd⟩
    exact ⟨_, (mem_alGroup_nil FieldNode.responseKey).2 ⟨⟨f, hf, rfl⟩, rfl⟩,
      List.any_eq_true.2 ⟨f, List.mem_filter.2 ⟨hf, decide_eq_true rfl⟩, hd⟩⟩

theorem subscriptionCheck_ne_nil (G : Groups) (x y : Err) :
    ((if G.length > 1 then [x] else []) ++ (G.filter fun g => g.2.any fun f => f.name.dunder).map fun _ => y) ≠ []
      ↔ G.length > 1 ∨ (G.filter fun g => g.2.any fun f => f.name.dunder) ≠ [] := by
  by_cases h : G.length > 1
  · rw [if_pos h]; exact ⟨fun _ => Or.inl h, fun _ => List.cons_ne_nil _ _⟩
  · rw [if_neg h, List.nil_append, ne_eq, List.map_eq_nil_iff]; exact ⟨Or.inr, fun hh => hh.resolve_left h⟩

/-- what the helper's groups say about the fields the specification collects: the helper returns
    their grouping (C19), and the specification collects one list of fields only -/
theorem collected_iff (s : Schema) (d : Document) (hn : s.typeNames.Nodup) {R : TypeDef}
    (hR : s.subscriptionType = some R) (sel : List Selection) :
    ((collectFields s d R sel).groups.length > 1 ∨
        ((collectFields s d R sel).groups.filter fun g => g.2.any fun f => f.name.dunder) ≠ []) ↔
      ∃ fs vis, Collects s d R sel [] fs vis ∧
        ((∃ f ∈ fs, ∃ g ∈ fs, f.responseKey ≠ g.responseKey) ∨ ∃ f ∈ fs, f.name.dunder = true) := by
  obtain ⟨nm, _, hnm⟩ := Option.bind_eq_some_iff.1 hR
  have hobj := (C18.objectTypeByName_iff s hn nm R).1 hnm
  obtain ⟨fs, vis, hc, hg⟩ := C19.collect_sound s d R ⟨hn, hobj.1, hobj.2.2⟩ sel
  rw [hg, groups_length_gt_one, groups_dunder]
  refine ⟨fun h => ⟨fs, vis, hc, h⟩, ?_⟩
  rintro ⟨fs', vis', hc', h⟩
  rw [(C19.collects_functional s d R hc hc').1]
  exact h

/-- 'single field subscriptions' reports iff a subscription's root selection set — fragments
    expanded per CollectFields and grouped by response key — has more than one entry or selects
    an introspection field.  The root type is the one named by the schema definition or, absent
    one, the type named Subscription (`s.subscriptionType`, characterised in C18). -/
theorem singleFieldSubscriptions_iff (s : Schema) (d : Document) (hq : s.queryType.isSome = true)
    (hn : s.typeNames.Nodup) :
    fires .singleFieldSubscriptions s d ↔ SubscriptionNotSingleField s d := by
  unfold SubscriptionNotSingleField
  refine (stateless_fires_iff _ s d _).trans ⟨?_, ?_⟩
  · rintro ⟨⟨ev, env⟩, hmem, hne⟩
    split at hne
    · next o he =>
      cases (show ev = _ from he)
      by_cases hk : o.kind = .subscription
      · rw [if_pos (beq_iff_eq.2 hk)] at hne
        cases hR : s.subscriptionType with
        | none => rw [hR] at hne; exact absurd rfl hne
        | some R =>
          rw [hR] at hne
          exact ⟨o, (enter_operation_in_walk s d hq o).1 ⟨env, hmem⟩, hk, R, rfl,
            (collected_iff s d hn hR o.sel).1 ((subscriptionCheck_ne_nil _ _ _).1 hne)⟩
      · exact absurd (if_neg fun h => hk (beq_iff_eq.1 h)) hne
    · exact absurd rfl hne
  · rintro ⟨o, ho, hk, R, hR, hspec⟩
    obtain ⟨env, hmem⟩ := (enter_operation_in_walk s d hq o).2 ho
    refine ⟨(.enter (.operation o), env), hmem, ?_⟩
    simp only [hk, beq_self_eq_true, if_true, hR]
    exact (subscriptionCheck_ne_nil _ _ _).2 ((collected_iff s d hn hR o.sel).2 hspec)

theorem codes_C11 (s : Schema) (d : Document) :
    (∀ e ∈ errsOf .uniqueOperationNames s d, e.code = .uniqueOperationNames) ∧
    (∀ e ∈ errsOf .loneAnonymousOperation s d, e.code = .loneAnonymousOperation) ∧
    (∀ e ∈ errsOf .singleFieldSubscriptions s d, e.code = .singleFieldSubscriptions) :=
  ⟨C13.codes s d _ _, C13.codes s d _ _, C13.codes s d _ _⟩

/-! Non-vacuity: implicit `Subscription` root (regression witness of the repaired F2/F3) -/
def exSchema : Schema :=
  [ .type (.object 0 [] [⟨20, [], .named 6⟩]), .type (.object 4 [] [⟨22, [], .named 6⟩, ⟨24, [], .named 6⟩]), .type (.scalar 6) ]
def sub (sel : List Selection) : Document := [.op ⟨.subscription, ⟨1, 1⟩, none, [], [], sel⟩]
def fld (alias : Option Name) (n : Name) : Selection := .field ⟨1, 2⟩ alias n [] [] []

example : ¬ fires .singleFieldSubscriptions exSchema (sub [fld none 22]) := by decide
example : fires .singleFieldSubscriptions exSchema (sub [fld none 22, fld none 24]) := by decide
example : fires .singleFieldSubscriptions exSchema (sub [fld (some 26) 22, fld (some 28) 22]) := by decide   -- a: s1 b: s1
example : ¬ fires .singleFieldSubscriptions exSchema (sub [fld (some 26) 22, fld (some 26) 22]) := by decide -- a: s1 a: s1
example : fires .singleFieldSubscriptions exSchema (sub [fld none 1]) := by decide                           -- __typename
example : fires .uniqueOperationNames exSchema
    [.op ⟨.query, ⟨1, 1⟩, some 30, [], [], [fld none 20]⟩, .op ⟨.query, ⟨2, 1⟩, some 30, [], [], [fld none 20]⟩] := by decide
example : fires .loneAnonymousOperation exSchema
    [.op ⟨.shorthand, ⟨0, 0⟩, none, [], [], [fld none 20]⟩, .op ⟨.query, ⟨2, 1⟩, some 30, [], [], [fld none 20]⟩] := by decide

end Gql.C11
