/-
  Thm/C15Schema.lean — PROPERTY C15 (schema visitor part): for every schema document without
  type extensions the schema visitor's callbacks are the pre/post-order flattening of the
  schema's node tree (every definition, field, input field and enum value entered and left once,
  children between their parent's enter and leave, siblings in list order); with a type
  extension it panics (documented limitation, excluded by the property).
-/
import GqlVerif.Spec.SchemaTree
namespace Gql.C15

theorem svFields_eq (mk : FieldDef → SNode) (fs : List FieldDef) :
    svFields mk fs = STree.flattenAll (fs.map fun f => leafT (mk f)) := by
  induction fs with
  | nil => rfl
  | cons f fs ih => rw [svFields, ih]; rfl

theorem svInputFields_eq (o : Name) (fs : List InputValueDef) :
    svInputFields o fs = STree.flattenAll (fs.map fun f => leafT (.inputField f o)) := by
  induction fs with
  | nil => rfl
  | cons f fs ih => rw [svInputFields, ih]; rfl

theorem svEnumValues_eq (o : Name) (vs : List Name) :
    svEnumValues o vs = STree.flattenAll (vs.map fun v => leafT (.enumValue v o)) := by
  induction vs with
  | nil => rfl
  | cons v vs ih => rw [svEnumValues, ih]; rfl

theorem flatten_node_singleton (n : SNode) (c : STree) :
    (STree.node n [c]).flatten = .enter n :: c.flatten ++ [.leave n] := by
  simp only [STree.flatten, STree.flattenAll, List.append_nil]

theorem typeTree_flatten (t : TypeDef) :
    (typeTree t).flatten = [.enter (.typeDef t)] ++ svTypeBody t ++ [.leave (.typeDef t)] := by
  unfold typeTree
  rw [flatten_node_singleton]
  cases t <;> simp only [svTypeBody, svFields_eq, svInputFields_eq, svEnumValues_eq] <;> rfl

theorem hasExtension_cons (d : SDef) (rest : Schema) :
    Schema.hasExtension (d :: rest) = ((match d with | .ext => true | _ => false) || Schema.hasExtension rest) := rfl

theorem svDefinitions_eq (s : Schema) :
    svDefinitions s = if s.hasExtension then none else some (STree.flattenAll (s.filterMap sdefTree)) := by
  induction s with
  | nil => rfl
  | cons d rest ih =>
    cases d with
    | ext => rfl
    | schema dd =>
      rw [svDefinitions, ih, hasExtension_cons]
      cases Schema.hasExtension rest <;> rfl
    | directive dd =>
      rw [svDefinitions, ih, hasExtension_cons]
      cases Schema.hasExtension rest <;> rfl
    | type t =>
      rw [svDefinitions, ih, hasExtension_cons]
      cases Schema.hasExtension rest
      · simp only [Bool.or_false, Bool.false_eq_true, ↓reduceIte, Option.map_some, List.filterMap_cons, sdefTree,
          STree.flattenAll, typeTree_flatten]
      · rfl

/-- Main statement. -/
theorem schemaVisit_eq_flatten (s : Schema) :
    schemaVisit s = if s.hasExtension then none else some (schemaTree s).flatten := by
  simp only [schemaVisit, svDefinitions_eq]
  split <;> simp [schemaTree, STree.flatten]

/-- No panic without type extensions. -/
theorem schemaVisit_total (s : Schema) (h : s.hasExtension = false) : (schemaVisit s).isSome = true := by
  simp [schemaVisit_eq_flatten, h]

example : schemaVisit [.type (.enum 20 [22, 24]), .schema ⟨some 0, none, none⟩] =
    some [.enter .document, .enter (.typeDef (.enum 20 [22, 24])), .enter (.enumType (.enum 20 [22, 24])),
      .enter (.enumValue 22 20), .leave (.enumValue 22 20), .enter (.enumValue 24 20), .leave (.enumValue 24 20),
      .leave (.enumType (.enum 20 [22, 24])), .leave (.typeDef (.enum 20 [22, 24])),
      .enter (.schemaDef ⟨some 0, none, none⟩), .leave (.schemaDef ⟨some 0, none, none⟩), .leave .document] := by
  rfl

end Gql.C15
