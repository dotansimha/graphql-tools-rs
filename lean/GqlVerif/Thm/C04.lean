/-
  Thm/C04.lean — PROPERTY C04: the field-selection rules fire exactly when the spec condition
  is violated, and every error carries the reporting rule's code.
-/
import GqlVerif.Spec.Rules
import GqlVerif.Lemmas.TraverseMem
import GqlVerif.Thm.C13
namespace Gql.C04
open Gql.Spec

/-- the check at an `enter field` callback whose parent type is `P` -/
theorem cannotQuery_ne_nil (s : Schema) (n : Name) (P : TypeDef) (x : Err) :
    (if n == nTypename then [] else
      if (n == nSchemaField || n == nTypeField) && P.name == s.schemaDefinition.query.getD nQuery then []
      else if (P.fieldByName n).isNone then [x] else []) ≠ []
    ↔ ¬ MetaFieldAllowed s n P ∧ P.fieldByName n = none := by
  simp only [MetaFieldAllowed, queryRootName, beq_iff_eq, Bool.and_eq_true, Bool.or_eq_true,
    Option.isNone_iff_eq_none]
  by_cases h1 : n = nTypename
  · simp [h1]
  · by_cases h2 : (n = nSchemaField ∨ n = nTypeField) ∧ P.name = s.schemaDefinition.query.getD nQuery
    · simp [h1, h2]
    · by_cases h3 : P.fieldByName n = none <;> simp [h1, h2, h3]

/-- the check at an `enter operation` callback -/
theorem typenameAtRoot_ne_nil (o : Operation) (x : Err) :
    (if o.kind == .subscription then (rootTypenameFields o.sel).map fun _ => x else []) ≠ []
    ↔ o.kind = .subscription ∧ rootTypenameFields o.sel ≠ [] := by
  by_cases hk : o.kind = .subscription
  · simp [hk]
  · simp [hk]

/-- 'fields on correct type' reports iff some selected non-meta field is not defined on the
    schema-known type of its selection set, or `__typename` sits directly at a subscription root
    (the extra report the property statement allows). -/
theorem fieldsOnCorrectType_iff (s : Schema) (d : Document) (hq : s.queryType.isSome = true) :
    fires .fieldsOnCorrectType s d ↔ (UndefinedFieldSelected s d ∨ TypenameAtSubscriptionRoot d) := by
  refine (stateless_fires_iff _ s d _).trans ⟨?_, ?_⟩
  · rintro ⟨⟨ev, env⟩, hmem, hne⟩
    split at hne
    · next o he =>
      cases (show ev = _ from he)
      obtain ⟨hk, hr⟩ := (typenameAtRoot_ne_nil o _).1 hne
      exact Or.inr ⟨o, (enter_operation_in_walk s d hq o).1 ⟨env, hmem⟩, hk, hr⟩
    · next f he =>
      cases (show ev = _ from he)
      cases hp : env.parent with
      | none => rw [hp] at hne; exact absurd rfl hne
      | some P =>
        rw [hp] at hne
        obtain ⟨hmeta, hundef⟩ := (cannotQuery_ne_nil s f.name P _).1 hne
        exact Or.inl ⟨f, env, P, hmem, hp, hmeta, hundef⟩
    · exact absurd rfl hne
  · rintro (⟨f, env, P, hmem, hp, hmeta, hundef⟩ | ⟨o, ho, hk, hne⟩)
    · refine ⟨(.enter (.field f), env), hmem, ?_⟩
      rw [hp]
      exact (cannotQuery_ne_nil s f.name P _).2 ⟨hmeta, hundef⟩
    · obtain ⟨env, hmem⟩ := (enter_operation_in_walk s d hq o).2 ho
      exact ⟨(.enter (.operation o), env), hmem, (typenameAtRoot_ne_nil o _).2 ⟨hk, hne⟩⟩

/-- the check at an `enter field` callback whose field type `t` is known -/
theorem leafCheck_ne_nil (t : TypeDef) (sel : List Selection) (x y : Err) :
    (if t.isLeaf then (if sel.length > 0 then [x] else []) else if sel.length == 0 then [y] else []) ≠ []
    ↔ (t.isLeaf = true ∧ sel ≠ []) ∨ (t.isLeaf = false ∧ sel = []) := by
  cases t.isLeaf <;> cases sel <;> simp

/-- 'leaf field selections' reports iff a field of scalar/enum type has a sub-selection or a
    field whose (known) type is not a leaf type lacks one. -/
theorem leafFieldSelections_iff (s : Schema) (d : Document) :
    fires .leafFieldSelections s d ↔ LeafSelectionViolated s d := by
  refine (stateless_fires_iff _ s d _).trans ⟨?_, ?_⟩
  · rintro ⟨⟨ev, env⟩, hmem, hne⟩
    split at hne
    · next f he =>
      cases (show ev = _ from he)
      cases hc : env.cur with
      | none => exact absurd (by simp only [hc]) hne
      | some t =>
        cases hl : env.curLit with
        | none => exact absurd (by simp only [hc, hl]) hne
        | some lit =>
          simp only [hc, hl] at hne
          exact ⟨f, env, t, hmem, hc, by rw [hl]; rfl, (leafCheck_ne_nil t f.sel _ _).1 hne⟩
    · exact absurd rfl hne
  · rintro ⟨f, env, t, hmem, hc, hl, hcases⟩
    obtain ⟨lit, hlit⟩ := Option.isSome_iff_exists.1 hl
    refine ⟨(.enter (.field f), env), hmem, ?_⟩
    simp only [hc, hlit]
    exact (leafCheck_ne_nil t f.sel _ _).2 hcases

/-- every error carries the reporting rule's own code -/
theorem codes_C04 (s : Schema) (d : Document) :
    (∀ e ∈ errsOf .fieldsOnCorrectType s d, e.code = .fieldsOnCorrectType) ∧
    (∀ e ∈ errsOf .leafFieldSelections s d, e.code = .leafFieldSelections) :=
  ⟨C13.codes s d _ _, C13.codes s d _ _⟩

/-! ### Non-vacuity: a schema and documents on both sides, decided by evaluation -/
/-- `type Query { t: T  a: Int }  type T { a: Int }  scalar Int`; ids Query=0 Int=6 T=20 t=22 a=24 zz=26 -/
def exSchema : Schema :=
  [ .type (.object 0 [] [⟨22, [], .named 20⟩, ⟨24, [], .named 6⟩]), .type (.object 20 [] [⟨24, [], .named 6⟩]), .type (.scalar 6) ]
def q (sel : List Selection) : Document := [.op ⟨.shorthand, ⟨0, 0⟩, none, [], [], sel⟩]
def fld (n : Name) (sel : List Selection) : Selection := .field ⟨1, 1⟩ none n [] [] sel

example : exSchema.queryType.isSome = true := by decide
example : ¬ fires .fieldsOnCorrectType exSchema (q [fld 22 [fld 24 [], fld 1 []]]) := by decide   -- { t { a __typename } }
example : fires .fieldsOnCorrectType exSchema (q [fld 22 [fld 26 []]]) := by decide                -- { t { zz } }
example : fires .fieldsOnCorrectType exSchema (q [fld 22 [fld 3 []]]) := by decide                 -- { t { __schema } }
example : ¬ fires .fieldsOnCorrectType exSchema (q [fld 3 []]) := by decide                        -- { __schema }
example : fires .leafFieldSelections exSchema (q [fld 22 []]) := by decide                         -- { t }
example : fires .leafFieldSelections exSchema (q [fld 24 [fld 24 []]]) := by decide                -- { a { a } }
example : ¬ fires .leafFieldSelections exSchema (q [fld 22 [fld 24 []]]) := by decide              -- { t { a } }

end Gql.C04
