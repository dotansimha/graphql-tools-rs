/-
  Thm/C01b.lean — PROPERTY C01 without the hypothesis `MergeAgrees`, and the sound half of C05
  for documents WITH fragment spreads.

  * `C05.merge_sound`: whenever the field-merging rule reports, some finite unrolling of the
    spec's FieldsInSetCanMerge fails for some selection set of the document (`MergeViolatedEx`,
    the fuel-free reading of 5.3.2) — for every document, fragments and cycles included.
  * `C01.valid_accepted`: a document that violates none of the other 23 conditions and for which
    no unrolling of FieldsInSetCanMerge fails is accepted by the default plan.
-/
import GqlVerif.Lemmas.MergeFinal
import GqlVerif.Lemmas.FuelAdequate
import GqlVerif.Lemmas.MergeCompleteFinal
import GqlVerif.Thm.C05b
namespace Gql.C05
open Gql.Spec

/-- **C05, soundness with fragments.**  Hypotheses: a query root; inline type conditions are
    declared types; argument names are unique per field (both follow from the other rules'
    conditions, see `C01.valid_accepted`). -/
theorem merge_sound (s : Schema) (d : Document) (hq : s.queryType.isSome = true) (htc : TcKnown s d) (hu : ArgsUniq s d)
    (h : fires .overlappingFieldsCanBeMerged s d) : MergeViolatedEx s d :=
  Gql.merge_sound s d hq htc hu h

/-- the executable spec with its fixed fuel is an instance of the fuel-free reading -/
theorem violatedEx_of_violated (s : Schema) (d : Document) (h : MergeViolated s d) : MergeViolatedEx s d :=
  mergeViolatedEx_of_violated s d h

/-- the conclusion is not vacuous: on the F15 document, where the rule reports
    (`f15_regression`), the spec fails, so `MergeViolatedEx` holds -/
example : MergeViolatedEx exSchema f15Doc := violatedEx_of_violated _ _ f15_regression.1

end Gql.C05

namespace Gql.C01
open Gql.Spec

theorem tcKnown_of_events (s : Schema) :
    (∀ x, (∀ i c, Ev.enter (.inline i) ∈ traverseSelection x → i.tc = some c → (s.typeByName c).isSome = true) →
      tcKnownSel s x = true) ∧
    ∀ xs, (∀ i c, Ev.enter (.inline i) ∈ traverseSelections xs → i.tc = some c → (s.typeByName c).isSome = true) →
      tcKnownSels s xs = true := by
  refine sels_induction ?_ ?_ ?_ ?_ ?_
  · intro pos alias name args dirs sel ih h
    refine ih fun i c hi hc => h i c ?_ hc
    simp only [traverseSelection, List.cons_append, List.mem_cons, List.mem_append]
    right; left; right; right; left; exact hi
  · exact fun _ _ _ _ => rfl
  · intro pos tc dirs sel ih h
    simp only [tcKnownSel, Bool.and_eq_true]
    constructor
    · cases tc with
      | none => rfl
      | some c => exact h ⟨pos, some c, dirs, sel⟩ c List.mem_cons_self rfl
    · refine ih fun i c hi hc => h i c ?_ hc
      simp only [traverseSelection, List.cons_append, List.mem_cons, List.mem_append]
      right; left; right; right; left; exact hi
  · exact fun _ => rfl
  · intro x xs ihx ihxs h
    rw [tcKnownSels, Bool.and_eq_true]
    exact ⟨ihx fun i c hi hc => h i c (List.mem_append_left _ hi) hc, ihxs fun i c hi hc => h i c (List.mem_append_right _ hi) hc⟩

/-- no inline fragment is conditioned on one of the eight introspection types (the schema text
    the crate is given does not declare them; same caveat as `DocOk` makes for variable types) -/
def NoIntrospectionConditions (s : Schema) (d : Document) : Prop :=
  ∀ i env c, InlineAt s d i env → i.tc = some c → c ∉ introspectionTypeNames

/-- declared inline type conditions, from 'known type names' -/
theorem tcKnown_of_valid (s : Schema) (d : Document) (hq : s.queryType.isSome = true)
    (hk : ¬ UnknownTypeReferenced s d) (hi : NoIntrospectionConditions s d) : TcKnown s d := by
  intro x hx
  apply (tcKnown_of_events s).2
  intro i c hmem hc
  -- the inline fragment is entered by the walk
  have hdef : Ev.enter (.inline i) ∈ traverseDefinition x := by
    cases x with
    | frag f => simp [traverseDefinition, traverseSelectionSet, show _ ∈ traverseSelections f.sel from hmem]
    | op o => simp [traverseDefinition, traverseSelectionSet, show _ ∈ traverseSelections o.sel from hmem]
  obtain ⟨env, hm⟩ := (mem_walkOf_iff s d hq _).2
    (enter_mem_document.2 (Or.inr (traverseDefinitions_eq_flatMap d ▸ List.mem_flatMap.2 ⟨x, hx, hdef⟩)))
  have hkn : KnownType s c := Classical.byContradiction fun hn => hk (Or.inr (Or.inl ⟨i, env, c, hm, hc, hn⟩))
  rcases hkn with h | h
  · exact h
  · exact absurd h (hi i env c hm hc)

/-- unique argument names per entered field, from 'unique argument names' -/
theorem argsUniq_of_valid (s : Schema) (d : Document) (h : ¬ DuplicateArgument s d) : ArgsUniq s d := by
  intro f env hm
  exact Classical.byContradiction fun hn => h (Or.inl ⟨f, env, hm, hn⟩)

/-- a document that satisfies all validation conditions: the 23 conditions other than field
    merging, and FieldsInSetCanMerge in its fuel-free reading -/
structure Valid (s : Schema) (d : Document) : Prop where
  others : ∀ r, r ≠ .overlappingFieldsCanBeMerged → ¬ Violates r s d
  merge : ¬ MergeViolatedEx s d

/-- **C01.**  On a well-formed schema, a document that satisfies all validation conditions is
    accepted by the default plan: `validate` returns the empty list.  (`Violates` for variable
    positions is the condition without the allowance for locations that declare a default:
    finding F13.) -/
theorem valid_accepted (s : Schema) (d : Document) (hs : SchemaOk s) (hd : DocOk d) (hi : NoIntrospectionConditions s d)
    (hv : Valid s d) : validate s d Gen.defaultPlan = some [] := by
  rw [accepted_iff_none_fires s d hs.queryRoot]
  intro r hf
  by_cases h1 : r = .overlappingFieldsCanBeMerged
  · subst h1
    have htc := tcKnown_of_valid s d hs.queryRoot (hv.others .knownTypeNames (by simp)) hi
    have hu := argsUniq_of_valid s d (hv.others .uniqueArgumentNames (by simp))
    exact hv.merge (C05.merge_sound s d hs.queryRoot htc hu hf)
  · obtain ⟨r', hr'⟩ := fires_sound s d hs hd r h1 hf
    by_cases h2 : r' = .overlappingFieldsCanBeMerged
    · subst h2; exact hv.merge (C05.violatedEx_of_violated s d hr')
    · exact hv.others r' h2 hr'

/-- on a document without fragment cycles the fuel-free reading of 5.3.2 is the executable one -/
theorem valid_iff (s : Schema) (d : Document) (hs : SchemaOk s) : Valid s d ↔ ∀ r, ¬ Violates r s d := by
  constructor
  · intro hv r
    by_cases h1 : r = .overlappingFieldsCanBeMerged
    · subst h1
      exact fun hm => hv.merge (mergeViolatedEx_of_violated s d hm)
    · exact hv.others r h1
  · intro h
    refine ⟨fun r _ => h r, fun hex => ?_⟩
    exact h .overlappingFieldsCanBeMerged ((violatedEx_iff_of_acyclic s d hs.queryRoot (h .noFragmentsCycle)).1 hex)

/-- **C01, in its plain form.**  On a well-formed schema, a document that violates none of the 24
    conditions - each a predicate of `Spec/`, field merging being the executable FieldsInSetCanMerge
    with its own fuel (adequate without fragment cycles: `violatedEx_iff_of_acyclic`) - is accepted
    by the default plan.  No hypothesis about any rule. -/
theorem valid_accepted_plain (s : Schema) (d : Document) (hs : SchemaOk s) (hd : DocOk d) (hi : NoIntrospectionConditions s d)
    (hv : ∀ r, ¬ Violates r s d) : validate s d Gen.defaultPlan = some [] :=
  valid_accepted s d hs hd hi ((valid_iff s d hs).2 hv)

/-- the same, read as: every error of the default plan points at a violated condition -/
theorem rejected_only_if_invalid (s : Schema) (d : Document) (hs : SchemaOk s) (hd : DocOk d) (hi : NoIntrospectionConditions s d)
    (errs : List Err) (h : validate s d Gen.defaultPlan = some errs) (hne : errs ≠ []) : ¬ Valid s d := by
  intro hv
  rw [valid_accepted s d hs hd hi hv] at h
  cases h
  exact hne rfl

/-- **C02 without a hypothesis on the merging rule, for the other 23 conditions**: a document that
    violates a condition other than field merging makes some rule of the default plan fire -/
theorem violates_fires (s : Schema) (d : Document) (hs : SchemaOk s) (hd : DocOk d) (r : RuleId)
    (h1 : r ≠ .overlappingFieldsCanBeMerged) (hv : Violates r s d) : ∃ r', fires r' s d := by
  by_cases h2 : r = .noFragmentsCycle
  · subst h2
    by_cases hn : (d.fragments.map (·.name)).Nodup
    · exact ⟨_, (C06.noFragmentsCycle_iff s d hs.queryRoot hn).2 hv⟩
    · exact ⟨.uniqueFragmentNames, (C06.uniqueFragmentNames_iff s d hs.queryRoot).2 hn⟩
  by_cases h3 : r = .valuesOfCorrectType
  · subst h3
    by_cases hvt : VarTypesGood s d
    · exact ⟨_, (C08.valuesOfCorrectType_iff_wf s d hs.inputsClosed hs.argsGood hvt).2 hv⟩
    · have : ∃ o, Definition.op o ∈ d ∧ ∃ v ∈ o.vars, ¬ GoodTy s v.ty := by
        refine Classical.byContradiction fun hc => hvt ?_
        intro o ho v hv'
        exact Classical.byContradiction fun hg => hc ⟨o, ho, v, hv', hg⟩
      obtain ⟨o, ho, v, hv', hbad⟩ := this
      have ho' := (mem_operations_iff d o).2 ho
      obtain ⟨hok, hni⟩ := hd o ho' v hv'
      cases ht : s.typeByName v.ty.inner with
      | none =>
        refine ⟨.knownTypeNames, (C06.knownTypeNames_iff s d hs.queryRoot).2 (Or.inr (Or.inr ⟨v, ?_, ?_⟩))⟩
        · exact (C07.enter_varDef_in_walk s d hs.queryRoot v).2 ⟨o, ho', hv'⟩
        · rintro (h | h)
          · rw [ht] at h; cases h
          · exact hni h
      | some t =>
        cases hi : t.isInput with
        | true => exact absurd ⟨hok, by simp [Schema.isInputName, ht, hi]⟩ hbad
        | false =>
          exact ⟨.variablesAreInputTypes, (C07.variablesAreInputTypes_iff s d hs.queryRoot).2 ⟨o, ho', v, hv', t, ht, hi⟩⟩
  exact ⟨r, (fires_iff_violates_basic s d hs r h1 h2 h3).2 hv⟩

theorem invalid_rejected (s : Schema) (d : Document) (hs : SchemaOk s) (hd : DocOk d) (r : RuleId)
    (h1 : r ≠ .overlappingFieldsCanBeMerged) (hv : Violates r s d) :
    ∃ errs, validate s d Gen.defaultPlan = some errs ∧ errs ≠ [] := by
  refine ⟨_, C03.no_panic s d hs.queryRoot _, fun he => ?_⟩
  obtain ⟨r', hr'⟩ := violates_fires s d hs hd r h1 hv
  have := (accepted_iff_none_fires s d hs.queryRoot).1 (by rw [C03.no_panic s d hs.queryRoot, he])
  exact this r' hr'

/-! ### the hypotheses are satisfiable: `{ a a }` against `type Query { a: Int }`
    (ids Query=0 Int=6 a=100) meets them, with a same-key pair for the merging condition -/

def tinySchema : Schema := [ .type (.object 0 [] [⟨100, [], .named 6⟩]), .type (.scalar 6) ]
def tinyDoc : Document :=
  [.op ⟨.shorthand, ⟨0, 0⟩, none, [], [], [.field ⟨1, 3⟩ none 100 [] [] [], .field ⟨1, 5⟩ none 100 [] [] []]⟩]

theorem tiny_schemaOk : SchemaOk tinySchema where
  queryRoot := by decide
  typeNames := by decide
  directiveNames := by decide
  inputsClosed := by
    intro n n' fields h f hf
    have hm := (typeByName_some h).1
    simp [tinySchema] at hm
  argsGood := by
    refine ⟨?_, ?_⟩
    · intro td hm n fd hfd a ha
      simp [tinySchema] at hm
      rcases hm with rfl | rfl
      · simp [TypeDef.fieldByName] at hfd
        obtain ⟨rfl, rfl⟩ := hfd
        simp at ha
      · simp [TypeDef.fieldByName] at hfd
    · intro dd hm; simp [tinySchema] at hm

/-- every hypothesis of `valid_accepted` holds for `{ a a }` -/
theorem tiny_valid : SchemaOk tinySchema ∧ DocOk tinyDoc ∧ NoIntrospectionConditions tinySchema tinyDoc ∧ Valid tinySchema tinyDoc := by
  have hq : tinySchema.queryType.isSome = true := by decide
  have hnf : ∀ r, ¬ fires r tinySchema tinyDoc := by intro r; cases r <;> first | decide | decide +kernel
  have hi : NoIntrospectionConditions tinySchema tinyDoc := by
    intro i env c hm
    have h := List.mem_map_of_mem (f := Prod.fst) hm
    rw [walkOf_events _ _ hq] at h
    simp [traverseDocument, traverseDefinitions, traverseDefinition, traverseSelectionSet, traverseSelections,
      traverseSelection, tinyDoc, traverseDirectives, traverseVarDefs, traverseArguments] at h
  have others : ∀ r, r ≠ .overlappingFieldsCanBeMerged → ¬ Violates r tinySchema tinyDoc := by
    intro r hr hv
    by_cases h2 : r = .noFragmentsCycle
    · subst h2
      exact hnf _ ((C06.noFragmentsCycle_iff tinySchema tinyDoc hq (by decide)).2 hv)
    by_cases h3 : r = .valuesOfCorrectType
    · subst h3
      refine hnf _ ((C08.valuesOfCorrectType_iff_wf tinySchema tinyDoc tiny_schemaOk.inputsClosed tiny_schemaOk.argsGood ?_).2 hv)
      intro o ho v hv'
      simp [tinyDoc] at ho
      subst ho; simp at hv'
    exact hnf r ((fires_iff_violates_basic tinySchema tinyDoc tiny_schemaOk r hr h2 h3).2 hv)
  refine ⟨tiny_schemaOk, ?_, hi, others, fun hex => ?_⟩
  · intro o ho v hv
    simp [tinyDoc, Document.operations] at ho
    subst ho; simp at hv
  · -- the merging rule is silent on `{ a a }`, and it is complete: no unrolling of FieldsInSetCanMerge fails
    have hac : ¬ FragmentCycle tinyDoc := others .noFragmentsCycle (by decide)
    exact hnf _ (merge_complete tinySchema tinyDoc hq (tcKnown_of_valid _ _ hq (others .knownTypeNames (by decide)) hi)
      (argsUniq_of_valid _ _ (others .uniqueArgumentNames (by decide))) hac ((violatedEx_iff_of_acyclic _ _ hq hac).1 hex))

example : validate tinySchema tinyDoc Gen.defaultPlan = some [] :=
  valid_accepted _ _ tiny_valid.1 tiny_valid.2.1 tiny_valid.2.2.1 tiny_valid.2.2.2

end Gql.C01
