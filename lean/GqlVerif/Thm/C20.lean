/-
  Thm/C20.lean — PROPERTY C20 (partial): the serde model of the introspection types round-trips.
  Proved for *every* well-formed shape table (member keys distinct, tag keys not member keys),
  hence for the table regenerated from introspection.rs, whose well-formedness is re-decided on
  every run.  Not proved (exploration only, see evidence): that every spec-conformant JSON
  conforms to the table, reader chunking, I/O faults, malformed JSON — those are properties of
  serde_json's reader and of the fit between the table and the GraphQL specification.
-/
import GqlVerif.Spec.CodecSpec
import GqlVerif.Gen.IntrospectionShape
namespace Gql.C20
open Gql.Codec

theorem env_get_ok {env : Env} (hok : env.ok = true) {n : String} {d : Decl} (h : env.get n = some d) :
    d.ok = true := by
  obtain ⟨p, hp, rfl⟩ := Option.map_eq_some_iff.1 h
  exact List.all_eq_true.1 hok p (List.mem_of_find?_eq_some hp)

theorem lookup_append_of_none (pre rest : List (String × J)) (k : String) (h : lookup pre k = none) :
    lookup (pre ++ rest) k = lookup rest k := by
  unfold lookup at h ⊢
  rw [List.find?_append, Option.map_eq_none_iff.1 h, Option.none_or]

theorem lookup_cons_self (k : String) (j : J) (rest : List (String × J)) : lookup ((k, j) :: rest) k = some j := by
  simp [lookup]

theorem lookup_single_of_not_mem {fields : List FieldSpec} {k : String} (j : J)
    (h : (!(keysOf fields).contains k) = true) : ∀ f ∈ fields, lookup [(k, j)] f.key = none := by
  intro f hf
  have hk : k ≠ f.key := fun heq => by
    simp only [Bool.not_eq_eq_eq_not, Bool.not_true, List.contains_eq_mem, decide_eq_false_iff_not] at h
    exact h (heq ▸ List.mem_map.2 ⟨f, hf, rfl⟩)
  simp [lookup, hk]

theorem decode_opt {env : Env} {n : Nat} {σ : Shape} {j : J} (hj : j.isNull = false) :
    decode env (n + 1) (.opt σ) j = (decode env n σ j).map .some := by
  cases j <;> first | rfl | cases hj

theorem lookup_snoc_ne (pre : List (String × J)) (k k' : String) (j : J) (h : lookup pre k' = none) (hne : k ≠ k') :
    lookup (pre ++ [(k, j)]) k' = none := by
  rw [lookup_append_of_none pre _ k' h]
  simp [lookup, hne]

/-- members written by `encodeFields` after a prefix without their keys are found again -/
theorem decodeFields_encode (dec : Shape → J → Option Val) (w : Shape → Val → Bool)
    (hdec : ∀ σ v, w σ v = true → dec σ (encode v) = some v) :
    ∀ (fields : List FieldSpec) (fs : List (String × Val)) (pre : List (String × J)),
      fieldsWt w fields fs = true → (keysOf fields).Nodup → (∀ f ∈ fields, lookup pre f.key = none) →
      decodeFieldsWith dec (pre ++ encodeFields fs) fields = some fs
  | [], [], pre, _, _, _ => by simp [decodeFieldsWith]
  | [], _ :: _, _, h, _, _ => by simp [fieldsWt] at h
  | _ :: _, [], _, h, _, _ => by simp [fieldsWt] at h
  | f :: fields, (k, v) :: fs, pre, h, hnd, hpre => by
      simp only [fieldsWt, Bool.and_eq_true, beq_iff_eq] at h
      obtain ⟨⟨hk, hw⟩, hrest⟩ := h
      subst hk
      simp only [keysOf, List.map_cons, List.nodup_cons] at hnd
      have hl : lookup (pre ++ encodeFields ((f.key, v) :: fs)) f.key = some (encode v) := by
        rw [lookup_append_of_none pre _ _ (hpre f (by simp))]
        simp [encodeFields, lookup_cons_self]
      simp only [decodeFieldsWith, hl, hdec _ _ hw]
      have hpre' : ∀ f' ∈ fields, lookup (pre ++ [(f.key, encode v)]) f'.key = none := by
        intro f' hf'
        apply lookup_snoc_ne _ _ _ _ (hpre f' (by simp [hf']))
        intro heq
        exact hnd.1 (List.mem_map.2 ⟨f', hf', heq.symm⟩)
      have ih := decodeFields_encode dec w hdec fields fs (pre ++ [(f.key, encode v)]) hrest hnd.2 hpre'
      have happ : pre ++ encodeFields ((f.key, v) :: fs) = (pre ++ [(f.key, encode v)]) ++ encodeFields fs := by
        simp [encodeFields]
      rw [happ, ih]
      rfl

theorem decodeList_encode (dec : J → Option Val) (w : Val → Bool) (hdec : ∀ v, w v = true → dec (encode v) = some v) :
    ∀ l : List Val, l.all w = true → decodeListWith dec (encodeList l) = some l
  | [], _ => by simp [encodeList, decodeListWith]
  | v :: vs, h => by
      simp only [List.all_cons, Bool.and_eq_true] at h
      simp [encodeList, decodeListWith, hdec v h.1, decodeList_encode dec w hdec vs h.2]

/-- **Round trip**: a well-typed parsed value, serialised and parsed again, is itself. -/
theorem decode_encode (env : Env) (hok : env.ok = true) :
    ∀ (n : Nat) (σ : Shape) (v : Val), wt env n σ v = true → decode env n σ (encode v) = some v := by
  intro n
  induction n with
  | zero => nofun
  | succ n ih =>
    intro σ v h
    unfold wt at h
    split at h
    · rfl
    · rfl
    · rfl
    · rfl
    · rw [Bool.and_eq_true, Bool.not_eq_eq_eq_not, Bool.not_true] at h
      rw [encode, decode_opt h.2, ih _ _ h.1]
      rfl
    · rw [encode, decode, decodeList_encode _ _ (ih _) _ h]
      rfl
    · split at h
      · next nm tag fs _ tag' fields hd =>
        rw [Bool.and_eq_true, decide_eq_true_eq] at h
        obtain ⟨rfl, hf⟩ := h
        have hdok := env_get_ok hok hd
        simp only [Decl.ok, Bool.and_eq_true, decide_eq_true_eq] at hdok
        have hpre : ∀ f ∈ fields, lookup (tagPrefix tag) f.key = none := by
          cases tag with
          | none => exact fun _ _ => rfl
          | some kn => exact lookup_single_of_not_mem _ hdok.2
        simp only [encode, decode, hd]
        rw [decodeFields_encode _ _ ih fields fs _ hf hdok.1 hpre]
        rfl
      · cases h
    · split at h
      · next nm key t fs _ key' variants hd =>
        rw [Bool.and_eq_true, beq_iff_eq] at h
        obtain ⟨rfl, hv⟩ := h
        split at hv
        · next fields hfind =>
          obtain ⟨p, hp, rfl⟩ := Option.map_eq_some_iff.1 hfind
          have hvok := List.all_eq_true.1 (env_get_ok hok hd) p (List.mem_of_find?_eq_some hp)
          rw [Bool.and_eq_true, decide_eq_true_eq] at hvok
          simp only [encode, decode, hd, lookup_cons_self, hfind]
          rw [← List.singleton_append, decodeFields_encode _ _ ih p.2 fs _ hv hvok.1
            (lookup_single_of_not_mem _ hvok.2)]
          rfl
        · cases hv
      · cases h
    · split at h
      · next nm s _ names hd =>
        simp only [encode, decode, hd, h, if_true]
      · cases h
    · cases h
theorem decodeFields_wt (dec : Shape → J → Option Val) (w : Shape → Val → Bool)
    (hdec : ∀ σ j v, dec σ j = some v → w σ v = true) (hnone : ∀ σ, σ.isOpt = true → w σ Val.none = true)
    (kvs : List (String × J)) :
    ∀ (fields : List FieldSpec) (fs : List (String × Val)),
      decodeFieldsWith dec kvs fields = some fs → fieldsWt w fields fs = true
  | [], fs, h => by cases h; rfl
  | f :: fields, fs, h => by
      rw [decodeFieldsWith] at h
      split at h
      · next v hv =>
        obtain ⟨rest, hr, rfl⟩ := Option.map_eq_some_iff.1 h
        have hw : w f.shape v = true := by
          split at hv
          · exact hdec _ _ _ hv
          · split at hv
            · next ho => cases hv; exact hnone _ ho
            · cases hv
        simp only [fieldsWt, beq_self_eq_true, hw, decodeFields_wt dec w hdec hnone kvs fields rest hr,
          Bool.and_self]
      · cases h

theorem decodeList_wt (dec : J → Option Val) (w : Val → Bool) (hdec : ∀ j v, dec j = some v → w v = true) :
    ∀ (l : List J) (vs : List Val), decodeListWith dec l = some vs → vs.all w = true
  | [], vs, h => by cases h; rfl
  | x :: xs, vs, h => by
      rw [decodeListWith] at h
      split at h
      · next v hv =>
        obtain ⟨rest, hr, rfl⟩ := Option.map_eq_some_iff.1 h
        rw [List.all_cons, hdec _ _ hv, decodeList_wt dec w hdec xs rest hr]
        rfl
      · cases h

theorem decode_sound (env : Env) : ∀ (n : Nat) (σ : Shape) (j : J) (v : Val), decode env n σ j = some v →
    wt env (n + 1) σ v = true ∧ (j.isNull = false → (encode v).isNull = false) := by
  intro n
  induction n with
  | zero => nofun
  | succ n ih =>
    intro σ j v h
    have hwt : ∀ σ j v, decode env n σ j = some v → wt env (n + 1) σ v = true := fun σ j v h => (ih σ j v h).1
    have hnone : ∀ σ : Shape, σ.isOpt = true → wt env (n + 1) σ Val.none = true := by
      intro σ hσ
      cases σ <;> first | rfl | cases hσ
    unfold decode at h
    -- only `any` and `opt` can give a value that serialises to `null`
    split at h
    · cases h; exact ⟨rfl, fun _ => rfl⟩
    · cases h; exact ⟨rfl, fun _ => rfl⟩
    · cases h; exact ⟨rfl, id⟩
    · cases h; exact ⟨rfl, nofun⟩
    · next hj =>
      obtain ⟨x, hx, rfl⟩ := Option.map_eq_some_iff.1 h
      have hn := (ih _ _ x hx).2 (by cases j <;> first | rfl | exact absurd rfl hj)
      exact ⟨by rw [wt, hwt _ _ x hx, hn]; rfl, fun _ => hn⟩
    · obtain ⟨l, hl, rfl⟩ := Option.map_eq_some_iff.1 h
      exact ⟨decodeList_wt _ _ (hwt _) _ l hl, fun _ => rfl⟩
    · split at h
      · next hd =>
        obtain ⟨l, hl, rfl⟩ := Option.map_eq_some_iff.1 h
        refine ⟨?_, fun _ => rfl⟩
        simp only [wt, hd, decide_true, Bool.true_and]
        exact decodeFields_wt _ _ hwt hnone _ _ l hl
      · next hd =>
        split at h
        · split at h
          · next hf =>
            obtain ⟨l, hl, rfl⟩ := Option.map_eq_some_iff.1 h
            refine ⟨?_, fun _ => rfl⟩
            simp only [wt, hd, beq_self_eq_true, Bool.true_and, hf]
            exact decodeFields_wt _ _ hwt hnone _ _ l hl
          · cases h
        · cases h
      · next hd =>
        split at h
        · next hc => cases h; exact ⟨by simp only [wt, hd, hc], fun _ => rfl⟩
        · cases h
      · cases h
    · cases h

/-- what the parser returns is well-typed (one more unit of fuel: members absent from the JSON
    are filled in without consulting the member decoder) -/
theorem decode_wt (env : Env) : ∀ (n : Nat) (σ : Shape) (j : J) (v : Val),
    decode env n σ j = some v → wt env (n + 1) σ v = true :=
  fun n σ j v h => (decode_sound env n σ j v h).1

/-- parsing never produces a value that serialises to `null` from a non-null JSON -/
theorem decode_nonnull (env : Env) : ∀ (n : Nat) (σ : Shape) (j : J) (v : Val),
    decode env n σ j = some v → j.isNull = false → (encode v).isNull = false :=
  fun n σ j v h => (decode_sound env n σ j v h).2

/-- **Re-serialisation is a fixpoint**: serialising what was parsed and parsing it again yields
    the same structure. -/
theorem reserialise_fixpoint (env : Env) (hok : env.ok = true) (n : Nat) (σ : Shape) (j : J) (v : Val)
    (h : decode env n σ j = some v) : decode env (n + 1) σ (encode v) = some v :=
  decode_encode env hok (n + 1) σ v (decode_wt env n σ j v h)

/-- the table regenerated from introspection.rs is well-formed (re-decided on every run), so the
    two theorems above apply to the real types -/
theorem introspectionEnv_ok : Gen.introspectionEnv.ok = true := by decide

theorem introspection_reserialise (n : Nat) (j : J) (v : Val)
    (h : decode Gen.introspectionEnv n Gen.introspectionRoot j = some v) :
    decode Gen.introspectionEnv (n + 1) Gen.introspectionRoot (encode v) = some v :=
  reserialise_fixpoint _ introspectionEnv_ok n _ j v h

/-! Non-vacuity: a minimal conforming result parses, with absent optional members -/
example : (decode Gen.introspectionEnv 12 Gen.introspectionRoot
    (.obj [("__schema", .obj [("queryType", .obj [("name", .str "Q")]), ("types", .arr []), ("directives", .arr [])])])).isSome = true := by
  decide

end Gql.C20
