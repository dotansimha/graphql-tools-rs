/-
  Thm/C08.lean — PROPERTY C08: literals are accepted exactly when they can be coerced to the
  input type expected at their position.
-/
import GqlVerif.Lemmas.Coercion
import GqlVerif.Lemmas.ValueSites
import GqlVerif.Lemmas.SitesGood
import GqlVerif.Thm.C13
namespace Gql.C08
open Gql.Spec

/-- the top-level literal positions of a document — argument values of fields and directives,
    variable defaults — each with the input type the schema prescribes there (`none` when the
    schema does not know the argument / field / directive; C09 reports those). -/
def literalSites (s : Schema) (d : Document) : List (Option Ty × Value) := litSites (walkOf s d)

/-- every position's expected type is a well-wrapped reference to a declared input type -/
def SitesGood (s : Schema) (d : Document) : Prop := ∀ τ v, (some τ, v) ∈ literalSites s d → GoodTy s τ

/-- the whole report of the rule, site by site -/
theorem errs_eq (s : Schema) (d : Document) :
    errsOf .valuesOfCorrectType s d = (literalSites s d).flatMap (vErrsP s) := by
  unfold errsOf literalSites
  simp only [ruleOf]
  rw [voc_runOn]
  unfold walkOf
  cases h : walkDocument s Snap.empty d with
  | none => rfl
  | some t => exact voc_document s _ d t h

/-- **C08.**  'values of correct type', run alone, reports an error iff at some literal position
    the literal cannot be coerced (spec input-coercion rules, `Spec.Coercible`) to the type
    expected there.  List items and input-object fields are inside `Coercible`. -/
theorem valuesOfCorrectType_iff (s : Schema) (d : Document) (hs : InputsClosed s) (hg : SitesGood s d) :
    fires .valuesOfCorrectType s d ↔ ∃ τ v, (some τ, v) ∈ literalSites s d ∧ ¬ Coercible s τ v := by
  unfold fires
  rw [errs_eq, flatMap_ne_nil_iff]
  constructor
  · rintro ⟨⟨τ, v⟩, hp, hne⟩
    cases τ with
    | none => exact absurd (vErrs_none s v) hne
    | some τ => exact ⟨τ, v, hp, fun hc => hne ((vErrs_iff s hs v τ (hg τ v hp)).2 hc)⟩
  · rintro ⟨τ, v, hp, hnc⟩
    exact ⟨(some τ, v), hp, fun he => hnc ((vErrs_iff s hs v τ (hg τ v hp)).1 he)⟩

/-- the per-literal statement: what is reported inside one literal at a known expected type -/
theorem literal_iff (s : Schema) (hs : InputsClosed s) (τ : Ty) (hτ : GoodTy s τ) (v : Value) :
    vErrs s (some τ) v = [] ↔ Coercible s τ v := vErrs_iff s hs v τ hτ

/-- positions whose type the schema does not know are never reported by this rule -/
theorem unknown_site_silent (s : Schema) (v : Value) : vErrs s none v = [] := vErrs_none s v

/-- the premise `SitesGood` follows from schema / document well-formedness: argument types of
    fields and directives, and the document's variable types, are declared input types -/
theorem sitesGood_of_wf (s : Schema) (d : Document) (ha : ArgsGood s) (hv : VarTypesGood s d) : SitesGood s d :=
  sg_document s d ha hv

/-- **C08** on well-formed schemas and documents -/
theorem valuesOfCorrectType_iff_wf (s : Schema) (d : Document) (hs : InputsClosed s) (ha : ArgsGood s)
    (hv : VarTypesGood s d) :
    fires .valuesOfCorrectType s d ↔ ∃ τ v, (some τ, v) ∈ literalSites s d ∧ ¬ Coercible s τ v :=
  valuesOfCorrectType_iff s d hs (sitesGood_of_wf s d ha hv)

theorem codes_C08 (s : Schema) (d : Document) :
    ∀ e ∈ errsOf .valuesOfCorrectType s d, e.code = .valuesOfCorrectType := C13.codes s d _ _

/-! Non-vacuity and regression witnesses of the repaired F9 / F10 / F11.
    `type Query { f(a: Int, l: [Int]!, o: In, ll: [[Int!]]): Int }  input In { x: Int!  y: [In] }`
    ids: Query=0 Int=6 f=100 a=102 l=104 o=106 In=108 x=110 y=112 ll=114 -/
def exSchema : Schema :=
  [ .type (.object 0 [] [⟨100, [⟨102, .named 6, none⟩, ⟨104, .nonNull (.list (.named 6)), none⟩,
      ⟨106, .named 108, none⟩, ⟨114, .list (.list (.nonNull (.named 6))), none⟩], .named 6⟩]),
    .type (.inputObject 108 [⟨110, .nonNull (.named 6), none⟩, ⟨112, .list (.named 108), none⟩]), .type (.scalar 6) ]
def q (args : List Arg) : Document :=
  [.op ⟨.shorthand, ⟨0, 0⟩, none, [], [], [.field ⟨1, 1⟩ none 100 args [] []]⟩]

example : literalSites exSchema (q [(102, .int 1), (999, .int 2)]) = [(some (.named 6), .int 1), (none, .int 2)] := by rfl
-- F9: items of a non-null list are checked against the item type
example : fires .valuesOfCorrectType exSchema (q [(104, .list [.str 7])]) := by decide
example : ¬ fires .valuesOfCorrectType exSchema (q [(104, .list [.int 7, .null])]) := by decide
example : fires .valuesOfCorrectType exSchema (q [(104, .null)]) := by decide
-- a lone literal counts as a one-item list, at any depth
example : ¬ fires .valuesOfCorrectType exSchema (q [(114, .int 3)]) := by decide
example : fires .valuesOfCorrectType exSchema (q [(114, .list [.list [.null]])]) := by decide
-- F10: list / object literals where a scalar or an input object is expected
example : fires .valuesOfCorrectType exSchema (q [(102, .list [.int 1])]) := by decide
example : fires .valuesOfCorrectType exSchema (q [(102, .obj [(110, .int 1)])]) := by decide
example : fires .valuesOfCorrectType exSchema (q [(106, .list [.obj [(110, .int 1)]])]) := by decide
-- F11: Int literals must fit 32 bits
example : fires .valuesOfCorrectType exSchema (q [(102, .int 2147483648)]) := by decide
example : ¬ fires .valuesOfCorrectType exSchema (q [(102, .int (-2147483648))]) := by decide
-- input objects: required / unknown members, nested
example : fires .valuesOfCorrectType exSchema (q [(106, .obj [])]) := by decide
example : fires .valuesOfCorrectType exSchema (q [(106, .obj [(110, .int 1), (998, .int 1)])]) := by decide
example : ¬ fires .valuesOfCorrectType exSchema (q [(106, .obj [(110, .int 1), (112, .obj [(110, .int 2)])])]) := by decide
example : fires .valuesOfCorrectType exSchema (q [(106, .obj [(110, .int 1), (112, .list [.obj [(110, .null)]])])]) := by decide

/-- the hypotheses of the theorem are met by the example schema -/
example : InputsClosed exSchema ∧ ArgsGood exSchema ∧ VarTypesGood exSchema (q []) := by
  refine ⟨?_, ⟨?_, ?_⟩, ?_⟩
  · intro n n' fields h f hf
    have hm := (typeByName_some h).1
    simp [exSchema] at hm
    obtain ⟨rfl, rfl⟩ := hm
    simp at hf
    rcases hf with rfl | rfl <;> exact ⟨rfl, by decide⟩
  · intro td hm n fd hfd a ha
    simp [exSchema] at hm
    rcases hm with rfl | rfl | rfl
    · simp [TypeDef.fieldByName] at hfd
      obtain ⟨rfl, rfl⟩ := hfd
      simp at ha
      rcases ha with rfl | rfl | rfl | rfl <;> exact ⟨rfl, by decide⟩
    · simp [TypeDef.fieldByName] at hfd
    · simp [TypeDef.fieldByName] at hfd
  · intro dd hm; simp [exSchema] at hm
  · intro o ho v hv
    simp [q] at ho
    subst ho
    cases hv

end Gql.C08
