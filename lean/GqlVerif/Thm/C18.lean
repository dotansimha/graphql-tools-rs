/-
  Thm/C18.lean — PROPERTY C18: type-system and value helpers agree with the specification's
  definitions.
-/
import GqlVerif.Spec.TypeSystem
import GqlVerif.Lemmas.Schema
import GqlVerif.Lemmas.Traverse
namespace Gql.C18

/-! ### Structural value comparison is tree equality -/
/-- One case per equation of the three functions; in the catch-all equations the result is `false`. -/
theorem compare_eq_all :
    (∀ a b, Value.compare a b = true → a = b) ∧
    (∀ a b, Value.compareFields a b = true → a = b) ∧
    (∀ a b, Value.compareList a b = true → a = b) := by
  apply Value.compare.mutual_induct
  case case1 | case11 | case14 => exact fun _ => rfl
  case case2 | case3 | case4 | case5 | case6 | case9 =>
    intro a b h
    rw [Value.compare, beq_iff_eq] at h
    rw [h]
  case case7 | case8 =>
    intro a b ih h
    rw [ih h]
  case case10 =>
    intro a b h1 h2 h3 h4 h5 h6 h7 h8 h9 h
    rw [Value.compare.eq_10 a b h1 h2 h3 h4 h5 h6 h7 h8 h9] at h
    cases h
  case case12 =>
    intro a as b bs ih1 ih2 h
    rw [Value.compareList, Bool.and_eq_true] at h
    rw [ih1 h.1, ih2 h.2]
  case case13 =>
    intro a b h1 h2 h
    rw [Value.compareList.eq_3 a b h1 h2] at h
    cases h
  case case15 =>
    intro ka a as kb b bs ih1 ih2 h
    rw [Value.compareFields, Bool.and_eq_true, Bool.and_eq_true, beq_iff_eq] at h
    rw [h.1.1, ih1 h.1.2, ih2 h.2]
  case case16 =>
    intro a b h1 h2 h
    rw [Value.compareFields.eq_3 a b h1 h2] at h
    cases h

theorem compareList_eq : ∀ a b : List Value, Value.compareList a b = true → a = b := compare_eq_all.2.2

theorem compare_refl_all : (∀ a : Value, Value.compare a a = true) ∧ (∀ a : List Value, Value.compareList a a = true) ∧
    ∀ a : List (Name × Value), Value.compareFields a a = true :=
  values_induction (fun n => beq_self_eq_true n) (fun i => beq_self_eq_true i) (fun i => beq_self_eq_true i)
    (fun i => beq_self_eq_true i) (fun b => beq_self_eq_true b) rfl (fun n => beq_self_eq_true n) (fun _ ih => ih) (fun _ ih => ih)
    rfl (fun _ _ hv hvs => Bool.and_eq_true_iff.2 ⟨hv, hvs⟩)
    rfl (fun k _ _ hv hfs => Bool.and_eq_true_iff.2 ⟨Bool.and_eq_true_iff.2 ⟨beq_self_eq_true k, hv⟩, hfs⟩)

theorem compareList_refl : ∀ a : List Value, Value.compareList a a = true := compare_refl_all.2.1
theorem compareFields_refl : ∀ a : List (Name × Value), Value.compareFields a a = true := compare_refl_all.2.2

/-- `compare` is true iff the two values are equal as trees (same list lengths, same object keys). -/
theorem compare_iff_eq (a b : Value) : Value.compare a b = true ↔ a = b :=
  ⟨compare_eq_all.1 a b, fun h => h ▸ compare_refl_all.1 a⟩

instance : DecidableEq Value := fun a b => decidable_of_iff _ (compare_iff_eq a b)

example : Value.list [.int 1] ≠ Value.list [.int 1, .int 2] := by decide
example : Value.obj [(20, .int 1)] ≠ Value.obj [(22, .int 1)] := by decide

/-! ### A value's variables are exactly its variable leaves -/
theorem mem_variablesInUse_all (n : Name) : (∀ v : Value, n ∈ v.variablesInUse ↔ VarLeaf n v) ∧
    (∀ vs : List Value, n ∈ Value.variablesInUseList vs ↔ ∃ v, v ∈ vs ∧ VarLeaf n v) ∧
    ∀ fs : List (Name × Value), n ∈ Value.variablesInUseFields fs ↔ ∃ k v, (k, v) ∈ fs ∧ VarLeaf n v := by
  refine values_induction ?_ (fun _ => ⟨nofun, nofun⟩) (fun _ => ⟨nofun, nofun⟩) (fun _ => ⟨nofun, nofun⟩) (fun _ => ⟨nofun, nofun⟩)
    ⟨nofun, nofun⟩ (fun _ => ⟨nofun, nofun⟩) ?_ ?_ ⟨nofun, nofun⟩ ?_ ⟨nofun, nofun⟩ ?_
  · intro m
    refine List.mem_singleton.trans ⟨?_, ?_⟩
    · rintro rfl; exact .var
    · intro h; cases h; rfl
  · intro vs ih
    refine ih.trans ⟨?_, ?_⟩
    · rintro ⟨v, hv, hl⟩; exact .list hv hl
    · intro h; cases h with | list hv hl => exact ⟨_, hv, hl⟩
  · intro fs ih
    refine ih.trans ⟨?_, ?_⟩
    · rintro ⟨k, v, hv, hl⟩; exact .obj hv hl
    · intro h; cases h with | obj hv hl => exact ⟨_, _, hv, hl⟩
  · intro v vs hv hvs
    simp [Value.variablesInUseList, hv, hvs]
  · intro k v fs hv hfs
    simp only [Value.variablesInUseFields, List.mem_append, hv, hfs, List.mem_cons, Prod.mk.injEq]
    constructor
    · rintro (h | ⟨k', v', h1, h2⟩)
      · exact ⟨k, v, Or.inl ⟨rfl, rfl⟩, h⟩
      · exact ⟨k', v', Or.inr h1, h2⟩
    · rintro ⟨k', v', (⟨rfl, rfl⟩ | h1), h2⟩
      · exact Or.inl h2
      · exact Or.inr ⟨k', v', h1, h2⟩

theorem mem_variablesInUse (n : Name) : ∀ v : Value, n ∈ v.variablesInUse ↔ VarLeaf n v := (mem_variablesInUse_all n).1
theorem mem_variablesInUseList (n : Name) :
    ∀ vs : List Value, n ∈ Value.variablesInUseList vs ↔ ∃ v, v ∈ vs ∧ VarLeaf n v := (mem_variablesInUse_all n).2.1
theorem mem_variablesInUseFields (n : Name) :
    ∀ fs : List (Name × Value), n ∈ Value.variablesInUseFields fs ↔ ∃ k v, (k, v) ∈ fs ∧ VarLeaf n v :=
  (mem_variablesInUse_all n).2.2

/-- An input value is required iff it is non-null without default. -/
theorem isRequired_iff (d : InputValueDef) :
    d.isRequired = true ↔ (∃ t, d.ty = .nonNull t) ∧ d.default = none := by
  unfold InputValueDef.isRequired
  cases d.ty <;> simp [Option.isNone_iff_eq_none]

/-! ### Subtyping -/

theorem isPossibleType_iff (tb ta : TypeDef) :
    isPossibleType tb ta = true ↔
      ((∃ n ms, tb = .union n ms ∧ ta.name ∈ ms) ∨ (∃ n is fs, tb = .interface n is fs ∧ n ∈ ta.interfaces)) := by
  cases tb with
  | union n ms =>
    simp only [isPossibleType, List.any_eq_true, beq_iff_eq]
    constructor
    · rintro ⟨x, hx, rfl⟩; exact Or.inl ⟨n, ms, rfl, hx⟩
    · rintro (⟨n', ms', h, hm⟩ | ⟨n', is, fs, h, _⟩)
      · cases h; exact ⟨_, hm, rfl⟩
      · cases h
  | interface n is fs =>
    simp only [isPossibleType, List.contains_eq_mem, decide_eq_true_eq]
    constructor
    · intro h; exact Or.inr ⟨n, is, fs, rfl, h⟩
    · rintro (⟨n', ms', h, _⟩ | ⟨n', is', fs', h, hm⟩)
      · cases h
      · cases h; exact hm
  | scalar _ | object _ _ _ | enum _ _ | inputObject _ _ => simp [isPossibleType]

theorem namedCheck_iff (s : Schema) (a b : Name) :
    s.namedSubtypeCheck a b = true ↔ NamedSub s a b := by
  unfold NamedSub Schema.namedSubtypeCheck
  constructor
  · intro h
    split at h
    · next ta tb ha hb =>
      simp only [Bool.and_eq_true, Bool.or_eq_true, isPossibleType_iff] at h
      exact ⟨ta, tb, ha, hb, h.1.1, h.1.2, h.2⟩
    · cases h
  · rintro ⟨ta, tb, ha, hb, h1, h2, h3⟩
    simp only [ha, hb, Bool.and_eq_true, Bool.or_eq_true, isPossibleType_iff]
    exact ⟨⟨h1, h2⟩, h3⟩

theorem isSubtype_named (s : Schema) (a : Name) (sup : Ty) :
    s.isSubtype (.named a) sup =
      if Ty.named a = sup then true else
      match sup with
      | .named b => s.namedSubtypeCheck a b
      | _ => false := by
  rw [Schema.isSubtype.eq_def]
  cases sup <;> simp

theorem isSubtype_list (s : Schema) (t : Ty) (sup : Ty) :
    s.isSubtype (.list t) sup =
      if Ty.list t = sup then true else
      match sup with
      | .list t' => s.isSubtype t t'
      | _ => false := by
  rw [Schema.isSubtype.eq_def]
  cases sup <;> simp

theorem isSubtype_nonNull (s : Schema) (t : Ty) (sup : Ty) :
    s.isSubtype (.nonNull t) sup =
      if Ty.nonNull t = sup then true else
      match sup with
      | .nonNull t' => s.isSubtype t t'
      | sup => s.isSubtype t sup := by
  rw [Schema.isSubtype.eq_def]
  cases sup <;> simp

theorem isSubtype_sound (s : Schema) : ∀ sub sup, s.isSubtype sub sup = true → Subtype s sub sup := by
  intro sub
  induction sub with
  | named a =>
    intro sup h
    rw [isSubtype_named] at h
    split at h
    · next heq => subst heq; exact .refl _
    · cases sup with
      | named b => exact .named ((namedCheck_iff s a b).1 h)
      | list t => simp at h
      | nonNull t => simp at h
  | list t ih =>
    intro sup h
    rw [isSubtype_list] at h
    split at h
    · next heq => subst heq; exact .refl _
    · cases sup with
      | named b => simp at h
      | list t' => exact .list (ih t' h)
      | nonNull t' => simp at h
  | nonNull t ih =>
    intro sup h
    rw [isSubtype_nonNull] at h
    split at h
    · next heq => subst heq; exact .refl _
    · cases sup with
      | named b => exact .strengthen rfl (ih _ h)
      | list t' => exact .strengthen rfl (ih _ h)
      | nonNull t' => exact .nonNull (ih t' h)

theorem isSubtype_complete (s : Schema) {sub sup : Ty} (h : Subtype s sub sup) :
    s.isSubtype sub sup = true := by
  induction h with
  | refl t => cases t <;> simp [isSubtype_named, isSubtype_list, isSubtype_nonNull]
  | nonNull _ ih => rw [isSubtype_nonNull]; split <;> simp [ih]
  | @strengthen a b hb _ ih =>
    rw [isSubtype_nonNull]
    split
    · rfl
    · cases b with
      | named n => exact ih
      | list t => exact ih
      | nonNull t => simp [Ty.isNonNull] at hb
  | list _ ih => rw [isSubtype_list]; split <;> simp [ih]
  | @named a b hn =>
    rw [isSubtype_named]
    split
    · rfl
    · exact (namedCheck_iff s a b).2 hn

/-- `is_subtype` decides the spec's subtype relation. -/
theorem isSubtype_iff (s : Schema) (sub sup : Ty) : s.isSubtype sub sup = true ↔ Subtype s sub sup :=
  ⟨isSubtype_sound s sub sup, isSubtype_complete s⟩

theorem subtype_refl (s : Schema) (t : Ty) : s.isSubtype t t = true := isSubtype_complete s (.refl t)

/-! ### Name lookups return the definition with that name iff one exists -/

theorem typeByName_spec (s : Schema) (n : Name) :
    (∀ t, s.typeByName n = some t → SDef.type t ∈ s ∧ t.name = n) ∧
    (s.typeByName n = none ↔ ¬ ∃ t, SDef.type t ∈ s ∧ t.name = n) := by
  refine ⟨fun t h => typeByName_some h, ?_⟩
  rw [← typeByName_isSome_iff]
  cases s.typeByName n <;> simp

theorem directiveByName_spec (s : Schema) (n : Name) :
    (∀ d, s.directiveByName n = some d → SDef.directive d ∈ s ∧ d.name = n) ∧
    (s.directiveByName n = none ↔ ¬ ∃ d, SDef.directive d ∈ s ∧ d.name = n) := by
  refine ⟨fun t h => directiveByName_some h, ?_⟩
  rw [← directiveByName_isSome_iff]
  cases s.directiveByName n <;> simp

/-- with unique names the lookup is the inverse of "is defined in the schema" -/
theorem typeByName_iff_mem (s : Schema) (hn : s.typeNames.Nodup) (n : Name) (t : TypeDef) :
    s.typeByName n = some t ↔ SDef.type t ∈ s ∧ t.name = n :=
  ⟨typeByName_some, fun ⟨h1, h2⟩ => h2 ▸ typeByName_of_mem hn h1⟩

theorem objectTypeByName_iff (s : Schema) (hn : s.typeNames.Nodup) (n : Name) (t : TypeDef) :
    s.objectTypeByName n = some t ↔ SDef.type t ∈ s ∧ t.name = n ∧ t.isObject = true := by
  unfold Schema.objectTypeByName
  constructor
  · intro h
    cases h1 : s.typeByName n with
    | none => simp [h1] at h
    | some t' =>
      have := typeByName_some h1
      cases t' <;> simp [h1] at h
      subst h; exact ⟨this.1, this.2, rfl⟩
  · rintro ⟨h1, h2, h3⟩
    rw [(typeByName_iff_mem s hn n t).2 ⟨h1, h2⟩]
    cases t <;> simp [TypeDef.isObject] at h3 ⊢

/-- `type_map()` agrees with `type_by_name` when names are unique -/
theorem typeMapGet_eq_typeByName (s : Schema) (hn : s.typeNames.Nodup) (n : Name) :
    s.typeMapGet n = s.typeByName n := by
  unfold Schema.typeMapGet
  cases h : s.typeByName n with
  | some t =>
    have ⟨hm, hname⟩ := typeByName_some h
    rw [List.find?_eq_some_iff_append]
    have hmem : t ∈ s.types.reverse := by simpa using (mem_types_iff s t).2 hm
    obtain ⟨as, bs, hsplit⟩ := List.append_of_mem hmem
    refine ⟨by simpa using hname, as, bs, hsplit, ?_⟩
    intro x hx
    simp only [Bool.not_eq_eq_eq_not, Bool.not_true, beq_eq_false_iff_ne, ne_eq]
    intro hxn
    have hnd : (s.types.reverse.map (·.name)).Nodup := by
      rw [List.map_reverse]; exact hn.perm (List.reverse_perm _).symm
    rw [hsplit] at hnd
    simp only [List.map_append, List.map_cons] at hnd
    have := (List.nodup_append.1 hnd).2.2 x.name (List.mem_map.2 ⟨x, hx, rfl⟩) t.name (by simp)
    exact this (hxn.trans hname.symm)
  | none =>
    rw [List.find?_eq_none]
    intro x hx
    have hx' : SDef.type x ∈ s := (mem_types_iff s x).1 (by simpa using hx)
    have := (typeByName_spec s n).2.1 h
    simp only [beq_iff_eq]
    intro hxn
    exact this ⟨x, hx', hxn⟩

/-! ### Root operation types -/

/-- Roots resolve to the schema definition's entries or else to the types named
    Query/Mutation/Subscription (object types only). -/
theorem rootTypes_spec (s : Schema) :
    let sd := s.explicitSchemaDef.getD defaultSchemaDef
    s.queryType = s.objectTypeByName (sd.query.getD nQuery) ∧
    s.mutationType = sd.mutation.bind s.objectTypeByName ∧
    s.subscriptionType = sd.subscription.bind s.objectTypeByName ∧
    (s.explicitSchemaDef = none →
      s.queryType = s.objectTypeByName nQuery ∧ s.mutationType = s.objectTypeByName nMutation ∧
      s.subscriptionType = s.objectTypeByName nSubscription) := by
  refine ⟨rfl, rfl, rfl, ?_⟩
  intro h
  simp [Schema.queryType, Schema.mutationType, Schema.subscriptionType, Schema.schemaDefinition, h,
    defaultSchemaDef]

/-- `explicitSchemaDef` is the first schema definition of the document, if any -/
theorem explicitSchemaDef_none_iff (s : Schema) :
    s.explicitSchemaDef = none ↔ ∀ d, SDef.schema d ∉ s := by
  induction s with
  | nil => simp [Schema.explicitSchemaDef]
  | cons x rest ih =>
    cases x with
    | schema d =>
      simp only [Schema.explicitSchemaDef, reduceCtorEq, false_iff]
      intro h; exact h d (by simp)
    | type _ | directive _ | ext => simp [Schema.explicitSchemaDef, ih]

/-! ### Possible types and overlap -/

theorem any_eq_iff_mem (x : Name) (l : List Name) : (l.any fun v => x == v) = true ↔ x ∈ l := by
  simp only [List.any_eq_true, beq_iff_eq]
  exact ⟨fun ⟨v, hv, h⟩ => h ▸ hv, fun h => ⟨x, h, rfl⟩⟩

theorem hasConcreteSubType_eq (t o : TypeDef) : t.hasConcreteSubType o = t.hasSubType o := by
  cases t <;> rfl

theorem isObject_of_composite {t : TypeDef} (hc : t.isComposite = true) (ha : t.isAbstract = false) :
    t.isObject = true := by
  cases t <;> simp [TypeDef.isComposite, TypeDef.isAbstract] at hc ha ⊢ <;> rfl

theorem possible_abstract {s : Schema} {t : TypeDef} (ht : t.isAbstract = true) (o : TypeDef) :
    Possible s t o ↔ o.isObject = true ∧ SDef.type o ∈ s ∧ t.hasSubType o = true := by
  cases t <;> simp [TypeDef.isAbstract] at ht <;>
    simp only [Possible, TypeDef.hasSubType, isImplementedBy, any_eq_iff_mem]

theorem possible_object {s : Schema} (hn : s.typeNames.Nodup) {t : TypeDef} (ht : SDef.type t ∈ s)
    (hto : t.isObject = true) (o : TypeDef) : Possible s t o ↔ o = t := by
  cases t <;> simp [TypeDef.isObject] at hto
  constructor
  · rintro ⟨_, ho, hnm⟩
    have e := typeByName_of_mem hn ho
    rw [hnm] at e
    exact Option.some.inj (e.symm.trans (typeByName_of_mem hn ht))
  · rintro rfl; exact ⟨rfl, ht, rfl⟩

/-- The possible types of an interface are exactly its implementing objects, of a union exactly
    its member objects (unique type names). -/
theorem mem_possibleTypes_iff (s : Schema) (hn : s.typeNames.Nodup) (t o : TypeDef)
    (ht : t.isAbstract = true) : o ∈ t.possibleTypes s ↔ Possible s t o := by
  cases t with
  | interface n is fs =>
    simp only [TypeDef.possibleTypes, typeMapEntries_of_nodup hn, List.mem_filter, mem_types_iff,
      Bool.and_eq_true, isImplementedBy, any_eq_iff_mem, Possible]
    constructor
    · rintro ⟨h1, h2, h3⟩; exact ⟨h2, h1, h3⟩
    · rintro ⟨h1, h2, h3⟩; exact ⟨h2, h1, h3⟩
  | union n ms =>
    simp only [TypeDef.possibleTypes, List.mem_filterMap, Possible]
    constructor
    · rintro ⟨m, hm, h⟩
      cases h1 : s.typeByName m with
      | none => simp [h1] at h
      | some t' =>
        have ⟨h2, h3⟩ := typeByName_some h1
        cases t' <;> simp [h1] at h
        subst h
        simp only [TypeDef.name] at h3
        exact ⟨rfl, h2, by simpa [TypeDef.name, h3] using hm⟩
    · rintro ⟨h1, h2, h3⟩
      refine ⟨o.name, h3, ?_⟩
      rw [typeByName_of_mem hn h2]
      cases o <;> simp [TypeDef.isObject] at h1 ⊢
  | scalar _ | object _ _ _ | enum _ _ | inputObject _ _ => simp [TypeDef.isAbstract] at ht

theorem hasSubType_iff_overlap {s : Schema} (hn : s.typeNames.Nodup) {t t' : TypeDef}
    (ht : t.isAbstract = true) (h' : SDef.type t' ∈ s) (ho : t'.isObject = true) :
    t.hasSubType t' = true ↔ ∃ o, Possible s t o ∧ Possible s t' o := by
  simp only [possible_object hn h' ho, exists_eq_right, possible_abstract ht, ho, h', true_and]

/-- Two composite types of the schema overlap iff they are the same type or their sets of
    possible object types intersect. -/
theorem doTypesOverlap_iff (s : Schema) (hn : s.typeNames.Nodup) (t1 t2 : TypeDef)
    (h1 : SDef.type t1 ∈ s) (h2 : SDef.type t2 ∈ s)
    (hc1 : t1.isComposite = true) (hc2 : t2.isComposite = true) :
    doTypesOverlap s t1 t2 = true ↔ (t1.name = t2.name ∨ ∃ o, Possible s t1 o ∧ Possible s t2 o) := by
  unfold doTypesOverlap
  by_cases hname : t1.name = t2.name
  · simp [hname]
  simp only [beq_iff_eq, hname, if_false, false_or]
  cases ha1 : t1.isAbstract <;> cases ha2 : t2.isAbstract <;>
    simp only [Bool.false_eq_true, if_false, if_true]
  · have e1 := possible_object hn h1 (isObject_of_composite hc1 ha1)
    have e2 := possible_object hn h2 (isObject_of_composite hc2 ha2)
    simp only [e1, e2, false_iff]
    rintro ⟨o, rfl, h⟩
    exact hname (h ▸ rfl)
  · rw [hasSubType_iff_overlap hn ha2 h1 (isObject_of_composite hc1 ha1)]
    exact exists_congr fun _ => and_comm
  · exact hasSubType_iff_overlap hn ha1 h2 (isObject_of_composite hc2 ha2)
  · simp only [gt_iff_lt, decide_eq_true_eq, List.length_pos_iff_exists_mem, List.mem_filter,
      mem_possibleTypes_iff s hn t1 _ ha1, hasConcreteSubType_eq, possible_abstract ha2]
    exact exists_congr fun o => and_congr_right fun hp => ⟨fun h => ⟨hp.1, hp.2.1, h⟩, fun h => h.2.2⟩

/-- Overlap is symmetric. -/
theorem doTypesOverlap_comm (s : Schema) (hn : s.typeNames.Nodup) (t1 t2 : TypeDef)
    (h1 : SDef.type t1 ∈ s) (h2 : SDef.type t2 ∈ s)
    (hc1 : t1.isComposite = true) (hc2 : t2.isComposite = true) :
    doTypesOverlap s t1 t2 = doTypesOverlap s t2 t1 :=
  Bool.eq_iff_iff.2 <| (doTypesOverlap_iff s hn t1 t2 h1 h2 hc1 hc2).trans <|
    (or_congr eq_comm (exists_congr fun _ => and_comm)).trans
      (doTypesOverlap_iff s hn t2 t1 h2 h1 hc2 hc1).symm

/-! ### Transitivity (needs a well-formed schema: union members are objects, and an implementer
    lists the interfaces of its interfaces) -/

theorem wf_parts {s : Schema} (h : s.WF = true) :
    s.typeNames.Nodup ∧ (∀ t ∈ s.types, t.refsOk s = true ∧ s.interfacesClosed t = true) := by
  simp only [Schema.WF, Bool.and_eq_true, List.all_eq_true, decide_eq_true_eq] at h
  exact ⟨h.1.1.1.1.1, fun t ht => h.1.1.1.2 t ht⟩

theorem namedSub_trans {s : Schema} (hwf : s.WF = true) {a b c : Name}
    (h1 : NamedSub s a b) (h2 : NamedSub s b c) : NamedSub s a c := by
  obtain ⟨-, hall⟩ := wf_parts hwf
  obtain ⟨ta, tb, hta, htb, hbAbs, haKind, hab⟩ := h1
  obtain ⟨tb', tc, htb', htc, hcAbs, hbKind, hbc⟩ := h2
  cases htb.symm.trans htb'
  refine ⟨ta, tc, hta, htc, hcAbs, haKind, ?_⟩
  -- `tb` is abstract and an object or interface, hence an interface, which `a` lists
  obtain ⟨nb, isb, fsb, rfl⟩ : ∃ n is fs, tb = .interface n is fs := by
    cases tb <;> simp [TypeDef.isAbstract, TypeDef.isInterface, TypeDef.isObject] at hbAbs hbKind ⊢
  obtain rfl : nb = b := (typeByName_some htb).2
  have hmem : nb ∈ ta.interfaces := by
    rcases hab with ⟨_, _, h, _⟩ | ⟨_, _, _, h, hmem⟩ <;> cases h
    exact hmem
  rcases hbc with ⟨n, ms, rfl, hm⟩ | ⟨n, is, fs, rfl, hm⟩
  · -- a union lists object types only
    have := (hall _ ((mem_types_iff s _).2 (typeByName_some htc).1)).1
    simp only [TypeDef.refsOk, List.all_eq_true] at this
    have hobj := this nb hm
    simp [Schema.isObjectName, htb] at hobj
  · -- `a` lists the interfaces of the interfaces it lists
    have := (hall _ ((mem_types_iff s _).2 (typeByName_some hta).1)).2
    simp only [Schema.interfacesClosed, List.all_eq_true] at this
    have := this nb hmem
    simp only [htb, List.all_eq_true, List.contains_eq_mem, decide_eq_true_eq] at this
    exact .inr ⟨n, is, fs, rfl, this n hm⟩

theorem subtype_nonNull_of {s : Schema} {b c : Ty} (h : Subtype s b c) (hb : b.isNonNull = false) :
    c.isNonNull = false := by
  cases h <;> simp_all [Ty.isNonNull]

theorem Subtype.trans {s : Schema} (hwf : s.WF = true) {a b c : Ty}
    (h1 : Subtype s a b) (h2 : Subtype s b c) : Subtype s a c := by
  induction h1 generalizing c with
  | refl t => exact h2
  | @nonNull a' b' h ih =>
    cases h2 with
    | refl => exact .nonNull h
    | nonNull h' => exact .nonNull (ih h')
    | strengthen hc h' => exact .strengthen hc (ih h')
  | @strengthen a' b' hb h ih =>
    exact .strengthen (subtype_nonNull_of h2 hb) (ih h2)
  | @list a' b' h ih =>
    cases h2 with
    | refl => exact .list h
    | list h' => exact .list (ih h')
  | @named a' b' hn =>
    cases h2 with
    | refl => exact .named hn
    | named hn' => exact .named (namedSub_trans hwf hn hn')

/-- `is_subtype` is transitive on well-formed schemas. -/
theorem isSubtype_trans (s : Schema) (hwf : s.WF = true) (a b c : Ty)
    (h1 : s.isSubtype a b = true) (h2 : s.isSubtype b c = true) : s.isSubtype a c = true :=
  isSubtype_complete s (Subtype.trans hwf (isSubtype_sound s a b h1) (isSubtype_sound s b c h2))

/-! Non-vacuity: a well-formed schema with an interface chain. -/
def exSchema : Schema :=
  [ .type (.scalar 6),
    .type (.interface 20 [] [⟨30, [], .named 6⟩]),
    .type (.interface 22 [20] [⟨30, [], .named 6⟩]),
    .type (.object 24 [22, 20] [⟨30, [], .named 6⟩]),
    .type (.union 26 [24]),
    .type (.object 0 [] [⟨32, [], .named 22⟩]) ]

example : exSchema.WF = true := by decide
example : exSchema.isSubtype (.nonNull (.list (.named 24))) (.list (.named 20)) = true := by decide
example : exSchema.isSubtype (.list (.named 24)) (.nonNull (.list (.named 20))) = false := by decide
example : exSchema.isSubtype (.named 24) (.named 26) = true := by decide

end Gql.C18
