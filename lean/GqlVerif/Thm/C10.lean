/-
  Thm/C10.lean — PROPERTY C10: the directive rules fire exactly when the spec condition is
  violated (for every document, at every nesting depth).
-/
import GqlVerif.Lemmas.KnownDirectives
import GqlVerif.Lemmas.Schema
import GqlVerif.Thm.C13
namespace Gql.C10
open Gql.Spec

theorem dirCheck_ne_nil (s : Schema) (hn : (s.directives.map (·.name)).Nodup) (loc : DirLoc) (dir : Directive) :
    dirCheck s (some loc) dir ≠ [] ↔
      (match s.directiveByName dir.name with
       | none => True
       | some dd => loc ∉ dd.locations) := by
  simp only [dirCheck, directiveMapGet_eq_directiveByName s hn]
  cases s.directiveByName dir.name with
  | none => simp
  | some dd =>
    have hany : dd.locations.any (fun l => l == loc) = true ↔ loc ∈ dd.locations := by
      rw [List.any_beq', List.contains_iff_mem]
    simp only [← hany]
    cases dd.locations.any fun l => l == loc <;> simp

/-- 'known directives' reports iff some directive is not declared or is used at a location its
    declaration does not list.  The proof carries the invariant "while the directives of a node
    are visited, `recent_location` is that node's location" through the whole traversal. -/
theorem knownDirectives_iff (s : Schema) (d : Document) (hq : s.queryType.isSome = true)
    (hn : (s.directives.map (·.name)).Nodup) :
    fires .knownDirectives s d ↔ KnownDirectivesViolated s d := by
  have hrun : errsOf .knownDirectives s d = (directivesAt d).flatMap fun p => dirCheck s (some p.2) p.1 := by
    show (List.foldl (knownDirectives.step s d) (none, []) (walkOf s d)).2 ++ [] = _
    rw [List.append_nil, kd_fold_eq, walkOf_events s d hq]
    exact kd_document s d
  unfold fires
  rw [hrun, flatMap_ne_nil_iff]
  exact exists_congr fun p => and_congr_right fun _ => dirCheck_ne_nil s hn p.2 p.1

/-- the directive list carried by an `enter` callback of a directive-bearing node -/
def udEnter : Ev → Option (List Directive)
  | .enter (.operation o) => some o.dirs
  | .enter (.field f) => some f.dirs
  | .enter (.fragmentDef f) => some f.dirs
  | .enter (.spread sp) => some sp.dirs
  | .enter (.inline i) => some i.dirs
  | _ => none

/-- lists of events without directive-bearing `enter`s -/
def NoOwner (l : List Ev) : Prop := ∀ e ∈ l, udEnter e = none

theorem NoOwner.filterMap {l : List Ev} (h : NoOwner l) : l.filterMap udEnter = [] :=
  List.filterMap_eq_nil_iff.2 h

theorem noOwner_atValue (n : Node) (h : n.isValue = true) : AtNode (fun e => udEnter e = none) n := by
  cases n <;> first | contradiction | exact ⟨rfl, rfl⟩

theorem noOwner_values : ∀ vs, NoOwner (traverseValues vs) := forall_traverseValues noOwner_atValue
theorem noOwner_objFields : ∀ fs, NoOwner (traverseObjFields fs) := forall_traverseObjFields noOwner_atValue
theorem noOwner_arguments : ∀ as, NoOwner (traverseArguments as) :=
  forall_traverseArguments noOwner_atValue fun _ => ⟨rfl, rfl⟩
theorem noOwner_directives : ∀ ds, NoOwner (traverseDirectives ds) :=
  forall_traverseDirectives noOwner_atValue (fun _ => ⟨rfl, rfl⟩) fun _ => ⟨rfl, rfl⟩
theorem noOwner_varDefs : ∀ vs, NoOwner (traverseVarDefs vs) :=
  forall_traverseVarDefs noOwner_atValue fun _ => ⟨rfl, rfl⟩

theorem owners_sels :
    (∀ x, (traverseSelection x).filterMap udEnter = directiveListsOfSelection x) ∧
      ∀ xs, (traverseSelections xs).filterMap udEnter = directiveListsOfSelections xs := by
  refine sels_induction ?_ ?_ ?_ ?_ ?_
  · intro pos alias name args dirs sel ih
    simp only [traverseSelection, directiveListsOfSelection, List.filterMap_append, List.filterMap_cons,
      List.filterMap_nil, udEnter, (noOwner_arguments args).filterMap, (noOwner_directives dirs).filterMap,
      ih, List.append_nil, List.singleton_append]
  · intro pos name dirs
    simp only [traverseSelection, directiveListsOfSelection, List.filterMap_append, List.filterMap_cons,
      List.filterMap_nil, udEnter, (noOwner_directives dirs).filterMap, List.append_nil]
  · intro pos tc dirs sel ih
    simp only [traverseSelection, directiveListsOfSelection, List.filterMap_append, List.filterMap_cons,
      List.filterMap_nil, udEnter, (noOwner_directives dirs).filterMap, ih, List.append_nil,
      List.singleton_append]
  · rfl
  · intro x xs ihx ihxs
    rw [traverseSelections, directiveListsOfSelections, List.filterMap_append, ihx, ihxs]

theorem owners_selection : ∀ x, (traverseSelection x).filterMap udEnter = directiveListsOfSelection x :=
  owners_sels.1

theorem owners_definition (x : Definition) :
    (traverseDefinition x).filterMap udEnter = directiveListsOfDefinition x := by
  cases x with
  | op o =>
    simp only [traverseDefinition, traverseSelectionSet, directiveListsOfDefinition, List.filterMap_append,
      List.filterMap_cons, List.filterMap_nil, udEnter, (noOwner_directives o.dirs).filterMap,
      (noOwner_varDefs o.vars).filterMap, owners_sels.2 o.sel, List.append_nil, List.singleton_append]
  | frag f =>
    simp only [traverseDefinition, traverseSelectionSet, directiveListsOfDefinition, List.filterMap_append,
      List.filterMap_cons, List.filterMap_nil, udEnter, (noOwner_directives f.dirs).filterMap,
      owners_sels.2 f.sel, List.append_nil, List.singleton_append]

theorem owners_document (d : Document) : (traverseDocument d).filterMap udEnter = directiveLists d := by
  have hdefs : ∀ ds : List Definition, (traverseDefinitions ds).filterMap udEnter =
      ds.flatMap directiveListsOfDefinition := by
    intro ds
    induction ds with
    | nil => rfl
    | cons x xs ih => rw [traverseDefinitions, List.filterMap_append, owners_definition, ih, List.flatMap_cons]
  simp only [traverseDocument, List.filterMap_append, List.filterMap_cons, List.filterMap_nil, udEnter, hdefs,
    List.append_nil, directiveLists]

/-- `n` is declared as a non-repeatable directive: the names the duplicate check looks at -/
def NonRepeatable (s : Schema) (n : Name) : Prop :=
  ∃ dd, s.directiveMapGet n = some dd ∧ dd.repeatable = false

theorem dupErrs_ne_nil (s : Schema) (l : List Directive) : ∀ seen : List Name,
    duplicateDirectiveErrors s l seen ≠ [] ↔
      ∃ n, NonRepeatable s n ∧ ((n ∈ seen ∧ n ∈ l.map (·.name)) ∨ (l.map (·.name)).count n ≥ 2) := by
  induction l with
  | nil => intro seen; simp [duplicateDirectiveErrors]
  | cons dir rest ih =>
      intro seen
      by_cases hnr : NonRepeatable s dir.name
      · obtain ⟨dd, hdd, hrep⟩ := hnr
        simp only [duplicateDirectiveErrors, hdd, hrep, Bool.not_false, if_true]
        by_cases hseen : dir.name ∈ seen
        · have : seen.contains dir.name = true := by simpa using hseen
          simp only [this, if_true, ne_eq, reduceCtorEq, not_false_eq_true, true_iff]
          exact ⟨dir.name, ⟨dd, hdd, hrep⟩, Or.inl ⟨hseen, List.mem_cons_self⟩⟩
        · -- `dir.name` is remembered; a later occurrence is a second one
          have : seen.contains dir.name = false := by simpa using hseen
          simp only [this, Bool.false_eq_true, if_false]
          rw [ih (dir.name :: seen)]
          refine exists_congr fun n => and_congr_right fun _ => ?_
          by_cases hn : n = dir.name
          · subst hn
            simp only [List.map_cons, List.mem_cons, true_or, true_and, hseen, false_and, false_or,
              List.count_cons_self]
            exact ⟨fun h => Nat.succ_le_succ (h.elim List.count_pos_iff.2 Nat.le_of_succ_le),
              fun h => Or.inl (List.count_pos_iff.1 (Nat.le_of_succ_le_succ h))⟩
          · have hn' : ¬ dir.name = n := fun h => hn h.symm
            simp only [List.map_cons, List.mem_cons, hn, false_or, List.count_cons, beq_iff_eq, hn', if_false,
              Nat.add_zero]
      · -- a directive that is undeclared or repeatable is skipped, and no name looked at is its name
        have hskip : duplicateDirectiveErrors s (dir :: rest) seen = duplicateDirectiveErrors s rest seen := by
          rw [duplicateDirectiveErrors]
          cases hdd : s.directiveMapGet dir.name with
          | none => rfl
          | some dd =>
            cases hrep : dd.repeatable with
            | true => simp only [hrep, Bool.not_true, Bool.false_eq_true, if_false]
            | false => exact absurd ⟨dd, hdd, hrep⟩ hnr
        rw [hskip, ih seen]
        refine exists_congr fun n => and_congr_right fun hn => ?_
        have hne : ¬ dir.name = n := fun h => hnr (h ▸ hn)
        have hne' : ¬ n = dir.name := fun h => hne h.symm
        simp only [List.map_cons, List.mem_cons, hne', false_or, List.count_cons, beq_iff_eq, hne, if_false,
          Nat.add_zero]

theorem udCheck_eq (s : Schema) (e : Ev × Snap) :
    udCheck s e = match udEnter e.1 with | some l => duplicateDirectiveErrors s l [] | none => [] := by
  obtain ⟨ev, sn⟩ := e
  cases ev with
  | enter n => cases n <;> rfl
  | leave n => rfl

theorem uniqueDirectives_fires_iff (s : Schema) (d : Document) (hq : s.queryType.isSome = true) :
    fires .uniqueDirectivesPerLocation s d ↔ ∃ l ∈ directiveLists d, duplicateDirectiveErrors s l [] ≠ [] := by
  rw [← owners_document, ← walkOf_events s d hq]
  refine (stateless_fires_iff (fun s _ e => udCheck s e) s d _).trans ⟨?_, ?_⟩
  · rintro ⟨e, he, hne⟩
    rw [udCheck_eq] at hne
    cases hu : udEnter e.1 with
    | none => rw [hu] at hne; exact absurd rfl hne
    | some l => rw [hu] at hne; exact ⟨l, List.mem_filterMap.2 ⟨e.1, List.mem_map_of_mem he, hu⟩, hne⟩
  · rintro ⟨l, hl, hne⟩
    obtain ⟨ev, hev, hu⟩ := List.mem_filterMap.1 hl
    obtain ⟨e, he, rfl⟩ := List.mem_map.1 hev
    exact ⟨e, he, by rw [udCheck_eq, hu]; exact hne⟩

/-- 'unique directives per location' reports iff a declared non-repeatable directive appears
    more than once on one node. -/
theorem uniqueDirectives_iff (s : Schema) (d : Document) (hq : s.queryType.isSome = true)
    (hn : (s.directives.map (·.name)).Nodup) :
    fires .uniqueDirectivesPerLocation s d ↔ UniqueDirectivesViolated s d := by
  rw [uniqueDirectives_fires_iff s d hq]
  refine exists_congr fun l => and_congr_right fun _ => ?_
  rw [dupErrs_ne_nil]
  refine exists_congr fun n => ?_
  simp only [NonRepeatable, directiveMapGet_eq_directiveByName s hn, List.not_mem_nil, false_and, false_or]
  exact ⟨fun ⟨⟨dd, h1, h2⟩, c⟩ => ⟨dd, h1, h2, c⟩, fun ⟨dd, h1, h2, c⟩ => ⟨⟨dd, h1, h2⟩, c⟩⟩

theorem codes_C10 (s : Schema) (d : Document) :
    (∀ e ∈ errsOf .knownDirectives s d, e.code = .knownDirectives) ∧
    (∀ e ∈ errsOf .uniqueDirectivesPerLocation s d, e.code = .uniqueDirectivesPerLocation) :=
  ⟨C13.codes s d _ _, C13.codes s d _ _⟩

/-! Non-vacuity: `directive @f on FIELD`, `directive @q repeatable on QUERY`, `type Query { a: Int }` -/
def exSchema : Schema :=
  [ .type (.object 0 [] [⟨20, [], .named 6⟩]), .type (.scalar 6),
    .directive ⟨22, false, [.field], []⟩, .directive ⟨24, true, [.query], []⟩ ]
def qd (opDirs : List Directive) (fieldDirs : List Directive) : Document :=
  [.op ⟨.query, ⟨1, 1⟩, none, [], opDirs, [.field ⟨1, 9⟩ none 20 [] fieldDirs []]⟩]
def dr (n : Name) : Directive := ⟨⟨1, 3⟩, n, []⟩

example : ¬ fires .knownDirectives exSchema (qd [dr 24, dr 24] [dr 22]) := by decide
example : fires .knownDirectives exSchema (qd [dr 22] []) := by decide            -- @f on a query
example : fires .knownDirectives exSchema (qd [] [dr 26]) := by decide            -- unknown directive
example : fires .uniqueDirectivesPerLocation exSchema (qd [] [dr 22, dr 22]) := by decide
example : ¬ fires .uniqueDirectivesPerLocation exSchema (qd [dr 24, dr 24] [dr 22]) := by decide  -- repeatable

end Gql.C10
